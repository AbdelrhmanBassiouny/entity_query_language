/-
  C20 — the result-cache index returns exactly the stored entries matching a lookup.

  Model: `EqlModel/Cache.lean` (transliteration of `SeenSet` / `IndexedCache`).  Histories are
  arbitrary finite sequences of inserts (full or partial bindings, overwrites) and clears.
    c20_entries_spec              after any history the trie holds exactly the last output written
                                  under each binding since the last clear, each binding once
    c20_check                     a coverage check for a lookup that binds a key succeeds exactly
                                  when some stored binding is contained in it
    c20_retrieve_uniform_partial  on a PREFIX-UNIFORM trie (at every node the children are all
                                  concrete or a single wildcard — in particular when all inserts
                                  are full) retrieval returns every stored entry that agrees with
                                  the lookup on the shared keys, each once, paired with its binding
                                  merged into the lookup, and nothing else
    c20_clear                     clearing empties it
    c20_wildcard_witness          the full statement (without "prefix-uniform") is FALSE of the
                                  code: known finding C20-F1 / C05-F1
  An insert under the empty binding goes to the flat store and an empty-binding `check` poisons the
  seen set: both are outside the statement ("binds at least one key"), modelled, not claimed.
-/
import EqlModel.Lemmas.CacheLemmas
import EqlModel.Gen.Tables

namespace Eql.Cache
variable {A O : Type} [DecidableEq A]
open Trie

inductive Op (A O : Type) where
  | insert (a : Asg A) (o : O)
  | clear

def step (c : Cache A O) : Op A O → Cache A O
  | .insert a o => c.insert a o
  | .clear => c.clear

def run (c : Cache A O) (h : List (Op A O)) : Cache A O := h.foldl step c

def init (keys : List Nat) : Cache A O := { keys := keys }

/-- Reference: the last output written under each path since the last clear. -/
def specStep (keys : List Nat) (S : List (Key A) → Option O) : Op A O → (List (Key A) → Option O)
  | .insert a o => if a.isEmpty then S else fun p => if p = Cache.path keys a then some o else S p
  | .clear => fun _ => none

def spec (keys : List Nat) (h : List (Op A O)) : List (Key A) → Option O :=
  h.foldl (specStep keys) (fun _ => none)

/-- Reference for the seen set: the non-empty bindings inserted since the last clear. -/
def specSeen : List (Op A O) → List (Asg A) → List (Asg A)
  | [], acc => acc
  | .insert a _ :: h, acc => specSeen h (if a.isEmpty then acc else acc ++ [a])
  | .clear :: h, _ => specSeen h []

/-- State invariant relating a cache to the reference store. -/
structure Rel (keys : List Nat) (c : Cache A O) (S : List (Key A) → Option O) : Prop where
  keys_eq : c.keys = keys
  ws : WS keys.length c.trie
  entries : ∀ p o, (p, o) ∈ toEntries c.trie ↔ S p = some o

theorem path_length {A : Type} (keys : List Nat) (a : Asg A) : (Cache.path keys a).length = keys.length :=
  List.length_map ..

theorem rel_empty {keys : List Nat} (hk : keys ≠ []) {c : Cache A O} (hkeys : c.keys = keys) (ht : c.trie = .nil) :
    Rel keys c (fun _ => none) := by
  refine ⟨hkeys, ?_, fun p o => ?_⟩
  · rw [ht]
    cases keys with
    | nil => exact absurd rfl hk
    | cons k ks => trivial
  · rw [ht]; exact ⟨(nomatch ·), (nomatch ·)⟩

theorem rel_step (keys : List Nat) (hk : keys ≠ []) (c : Cache A O) (S) (op : Op A O)
    (h : Rel keys c S) : Rel keys (step c op) (specStep keys S op) := by
  cases op with
  | clear => exact rel_empty hk h.keys_eq rfl
  | insert a o =>
    show Rel keys (if a.isEmpty then _ else _) (if a.isEmpty then S else _)
    cases a.isEmpty with
    | true => exact ⟨h.keys_eq, h.ws, h.entries⟩
    | false =>
      have hlen : (Cache.path c.keys a).length = keys.length := by rw [path_length, h.keys_eq]
      refine ⟨h.keys_eq, ws_insert o _ _ hlen h.ws, fun p o' => ?_⟩
      show (p, o') ∈ toEntries (Trie.insert o c.trie (Cache.path c.keys a)) ↔
        (if p = Cache.path keys a then some o else S p) = some o'
      rw [mem_toEntries_insert o _ _ hlen h.ws, h.keys_eq, h.entries]
      by_cases hp : p = Cache.path keys a
      · rw [if_pos hp]
        exact ⟨fun h => h.elim (fun h => congrArg some h.2.symm) (fun h => absurd hp h.1),
          fun h => .inl ⟨hp, (Option.some.inj h).symm⟩⟩
      · rw [if_neg hp]
        exact ⟨fun h => h.elim (fun h => absurd h.1 hp) (·.2), fun h => .inr ⟨hp, h⟩⟩

theorem rel_run (keys : List Nat) (hk : keys ≠ []) (h : List (Op A O)) (c : Cache A O) (S)
    (hr : Rel keys c S) : Rel keys (run c h) (h.foldl (specStep keys) S) :=
  List.foldl_rel hr fun op _ c S hr => rel_step keys hk c S op hr

theorem c20_entries_spec (keys : List Nat) (hk : keys ≠ []) (h : List (Op A O)) :
    (∀ p o, (p, o) ∈ toEntries (run (init keys) h).trie ↔ spec keys h p = some o) ∧
    ((toEntries (run (init keys : Cache A O) h).trie).map (·.1)).Nodup := by
  have hr := rel_run keys hk h (init keys) _ (rel_empty hk rfl rfl)
  exact ⟨hr.entries, paths_nodup _ _ hr.ws⟩

theorem c20_retrieve_uniform_partial (keys : List Nat) (hk : keys ≠ []) (h : List (Op A O))
    (a : Asg A) (hu : Uniform (run (init keys : Cache A O) h).trie = true) :
    ∃ es : List (List (Key A) × O),
      (es.map (·.1)).Nodup ∧
      (∀ p o, (p, o) ∈ es ↔ (spec keys h p = some o ∧ agree a keys p = true)) ∧
      (run (init keys) h).retrieve a = es.map fun e => (image a keys e.1 a, e.2) := by
  have hr := rel_run keys hk h (init keys : Cache A O) _ (rel_empty hk rfl rfl)
  refine ⟨(toEntries (run (init keys : Cache A O) h).trie).filter (fun e => agree a keys e.1), ?_, ?_, ?_⟩
  · exact (paths_nodup _ _ hr.ws).sublist (List.filter_sublist.map _)
  · intro p o
    rw [List.mem_filter, hr.entries p o]; rfl
  · rw [retrieve_eq_retr, hr.keys_eq]
    exact retr_uniform a keys _ a hr.ws hu

theorem run_keys (h : List (Op A O)) (c : Cache A O) : (run c h).keys = c.keys := by
  induction h generalizing c with
  | nil => rfl
  | cons op h ih =>
    refine (ih _).trans ?_
    cases op with
    | clear => rfl
    | insert a o => rw [step, Cache.insert]; split <;> rfl

theorem seen_run (h : List (Op A O)) (c : Cache A O) (hc : c.seen.allSeen = false) :
    (run c h).seen.allSeen = false ∧ (run c h).seen.seen = specSeen h c.seen.seen := by
  induction h generalizing c with
  | nil => exact ⟨hc, rfl⟩
  | cons op h ih =>
    have hstep : (step c op).seen.allSeen = false ∧
        specSeen (op :: h) c.seen.seen = specSeen h (step c op).seen.seen := by
      cases op with
      | clear => exact ⟨rfl, rfl⟩
      | insert a o =>
        rw [specSeen, step, Cache.insert]
        cases he : a.isEmpty with
        | true => exact ⟨hc, rfl⟩
        | false =>
          rw [if_neg Bool.false_ne_true, SeenSet.add, if_neg (hc ▸ Bool.false_ne_true)]
          exact ⟨he, rfl⟩
    exact hstep.2 ▸ ih _ hstep.1

theorem c20_check (keys : List Nat) (h : List (Op A O)) (a : Asg A)
    (hne : (a.filter fun kv => keys.contains kv.1) ≠ []) :
    ((run (init keys : Cache A O) h).check a).1 = true ↔
      ∃ b ∈ specSeen h [], ∀ kv ∈ b, Asg.get (a.filter fun kv => keys.contains kv.1) kv.1 = some kv.2 := by
  have hs := seen_run h (init keys : Cache A O) rfl
  rw [Cache.check, SeenSet.check, run_keys, show (init keys : Cache A O).keys = keys from rfl,
    if_neg (hs.1 ▸ Bool.false_ne_true), if_neg (mt List.isEmpty_iff.1 hne), hs.2]
  simp only [init, List.any_eq_true, SeenSet.covers, List.all_eq_true, beq_iff_eq]

theorem clear_empty (c : Cache A O) (a : Asg A) : c.clear.retrieve a = [] ∧ (c.clear.check a).1 = false := by
  refine ⟨rfl, ?_⟩
  show (SeenSet.check {} _).1 = false
  rw [SeenSet.check, if_neg Bool.false_ne_true]
  split <;> rfl

theorem c20_clear (keys : List Nat) (h : List (Op A O)) (a : Asg A)
    (hne : (a.filter fun kv => keys.contains kv.1) ≠ []) :
    (run (init keys : Cache A O) (h ++ [.clear])).retrieve a = [] ∧
    ((run (init keys : Cache A O) (h ++ [.clear])).check a).1 = false := by
  rw [run, List.foldl_append]
  exact clear_empty _ a

/-- A full binding has a concrete value under every key: such tries are prefix-uniform, so the
    partial theorem applies to every history of FULL inserts (non-vacuity of its hypothesis). -/
example : Uniform (run (init [1, 2] : Cache Nat Nat)
    [.insert [(1, 5), (2, 6)] 0, .insert [(1, 5), (2, 7)] 1, .insert [(1, 4), (2, 6)] 2]).trie = true := by
  decide

/-- **Counter-witness to the unrestricted statement** (known finding C20-F1): after
    `insert {1:5, 2:6} ↦ 0; insert {2:6} ↦ 1` both stored bindings agree with the lookup
    `{1:5, 2:6}`, but retrieval returns only the first; and the lookup `{}` returns only the
    second.  The trie is not prefix-uniform. -/
theorem c20_wildcard_witness :
    let c := run (init [1, 2] : Cache Nat Nat) [.insert [(1, 5), (2, 6)] 0, .insert [(2, 6)] 1]
    c.retrieve [(1, 5), (2, 6)] = [([(1, 5), (2, 6)], 0)] ∧
    c.retrieve [] = [([(2, 6)], 1)] ∧
    agree [(1, 5), (2, 6)] [1, 2] [.all, .val 6] = true ∧
    spec [1, 2] [.insert [(1, 5), (2, 6)] 0, .insert [(2, 6)] (1 : Nat)] [.all, .val 6] = some 1 ∧
    Uniform c.trie = false := by
  decide

/-- With at least one key, `checkK` (`IndexedCache.check` with its guard for a cache without keys, R34) IS the check all
    theorems above speak of. -/
theorem checkK_eq_check (c : Cache A O) (a : Asg A) (h : c.keys ≠ []) : c.checkK a = c.check a := by
  rw [Cache.checkK, if_neg (mt List.isEmpty_iff.1 h)]

/-- A cache without keys (the result cache of a comparison between constants) never claims coverage and is not
    changed by being asked: the operator is simply evaluated. -/
theorem c20_keyless_never_covers (c : Cache A O) (a : Asg A) (h : c.keys = []) : c.checkK a = (false, c) := by
  rw [Cache.checkK, h]; rfl

/-- Tie to the source (regenerated): `IndexedCache.check` begins with `if not self.keys: return False`. -/
theorem c20_keyless_guard_tied : Gen.cacheCheckGuardsKeyless = true := by decide

end Eql.Cache
