/-
  C09 — evaluation gives the same answer inside and outside a symbolic block.

  The only place evaluation reads the mode is the patched constructor / predicate wrapper
  (`hybrid_new`, `predicate.wrapper`): in symbolic mode a predicate call BUILDS an expression
  (an object, truthy) instead of running.  `World.atMode` is the world user code sees under a
  given mode.  Both entry points switch the mode off while they compute (`An.evaluate`: per
  resumption, `Mode.duringAdvance`; `The.evaluate`: `duringThe`, after fix c043580), so the result
  under any ambient mode is the result outside any block, which is the L1 semantics all other
  theorems speak about (`c09_an_ambient_irrelevant` / `c09_the_ambient_irrelevant`).
-/
import EqlModel.Eval
import EqlModel.Mode
import EqlModel.Gen.Tables

namespace Eql
variable {V : Type}

open Mode in
/-- The world as user code sees it under a mode: in symbolic mode a predicate call returns a
    symbolic expression `sym` instead of the predicate's result. -/
def World.atMode (W : World V) (sym : V) (mode : Option EMode) : World V :=
  { W with fn := fun n args => if mode.isSome then sym else W.fn n args }

/-- `The.evaluate`: `with symbolic_mode(mode=None): result = self._evaluate_()`. -/
def Mode.duringThe (_ambient : Option Mode.EMode) : Option Mode.EMode := none

variable (W : World V) (D : VarId → List V) (sym : V)

theorem c09_atMode_none : W.atMode sym none = W := rfl

/-- `an(...).evaluate()` under an ambient mode. -/
def evaluateAn (ambient : Option Mode.EMode) (q : Query V) : List (List V) :=
  rows (W.atMode sym (Mode.duringAdvance ambient)) D q

/-- `the(...).evaluate()` under an ambient mode. -/
def evaluateThe (ambient : Option Mode.EMode) (q : Query V) : TheOutcome V :=
  runThe (W.atMode sym (Mode.duringThe ambient)) D q

theorem c09_an_ambient_irrelevant (ambient : Option Mode.EMode) (q : Query V) :
    evaluateAn W D sym ambient q = rows W D q := by
  rw [evaluateAn, Mode.duringAdvance, c09_atMode_none]

theorem c09_the_ambient_irrelevant (ambient : Option Mode.EMode) (q : Query V) :
    evaluateThe W D sym ambient q = runThe W D q := by
  rw [evaluateThe, Mode.duringThe, c09_atMode_none]

/-- Why the mode must be switched off: evaluated under a symbolic mode, a predicate that is false
    of its argument still "holds" (the symbolic expression is an object, hence truthy). -/
theorem c09_symbolic_predicates_would_differ (hsym : W.truthy sym = true) (m : Mode.EMode)
    (n : String) (args : List (Term V)) (β : Bnd V) (p : Bnd V × Bool)
    (hp : p ∈ evalCond (W.atMode sym (some m)) D (.pred false n args) β false) : p.2 = false := by
  obtain ⟨q, _, hq⟩ := List.mem_flatMap.1 hp
  have : (W.atMode sym (some m)).truthy ((W.atMode sym (some m)).fn n q.2) = true := hsym
  rw [this] at hq
  exact congrArg Prod.snd (List.mem_singleton.1 hq)

/-! ### Open expression contexts (repair R33)

Besides the mode, user code sees the stack of entered expression contexts (`with symbolic_mode(q):`,
`with rule_mode(q):`, `with q:`): a predicate body that BUILDS a query of its own while an outer context is visible
has its predicates attached to that outer query (`broken`).  `symbolic_mode(mode=None)`, the guard of both entry
points, hides the stack as well as the mode. -/

structure Env where
  mode : Option Mode.EMode
  contexts : Nat

/-- `with symbolic_mode(mode=None)`: mode off, context stack swapped for an empty one. -/
def Env.duringEvaluation (_ambient : Env) : Env := ⟨none, 0⟩

def World.atEnv (W : World V) (sym broken : V) (e : Env) : World V :=
  { W with fn := fun n args => if e.mode.isSome then sym else if e.contexts > 0 then broken else W.fn n args }

theorem c09_atEnv_during (broken : V) (e : Env) : W.atEnv sym broken e.duringEvaluation = W := rfl

/-- `an(...).evaluate()` and `the(...).evaluate()` called under ANY ambient mode with ANY number of expression contexts
    open around the call give what they give outside every block. -/
theorem c09_an_env_irrelevant (broken : V) (e : Env) (q : Query V) :
    rows (W.atEnv sym broken e.duringEvaluation) D q = rows W D q := by
  rw [c09_atEnv_during]

theorem c09_the_env_irrelevant (broken : V) (e : Env) (q : Query V) :
    runThe (W.atEnv sym broken e.duringEvaluation) D q = runThe W D q := by
  rw [c09_atEnv_during]

/-- Why the contexts must be hidden: with the mode off but a context visible, user predicates do not see the world. -/
example (broken : V) (n : String) (args : List V) :
    (W.atEnv sym broken ⟨none, 1⟩).fn n args = broken := rfl

/-! ### Tie to the source (regenerated on every run, `Gen/Tables.lean`) -/

/-- The transliterated entry points: `An.evaluate` advances, and `The.evaluate` computes, inside
    `with symbolic_mode(mode=None)`, which also hides the open expression contexts. -/
theorem c09_entry_points_tied :
    (Gen.anAdvancesWithModeOff && Gen.theComputesWithModeOff && Gen.evaluationHidesContexts) = true := by decide

end Eql
