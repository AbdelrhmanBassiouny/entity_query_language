/-
  C10 — `for_all` yields exactly the bindings whose condition holds for every value.

  Model: `EqlModel/ForAll.lean` (transliteration of `ForAll._evaluate__` after fix 877c1d1).
  Proved for non-empty universal domains and conditions in which every disjunction mentions the same
  variables on both sides (then every TRUE output of the condition binds all of its variables): the single
  for_all (`c10_forall_uniform_partial`) and "combined with other conditions by and_", nested for_alls
  included (`c10_and_chain_partial`).  The unrestricted statement is false of the code
  (`c10_nonuniform_witness`, known finding C10-F1).
    rowsForAll_eq_stages(_none)  the driver's single-for_all entry point is the one/two-conjunct chain.
    sols_mem(_ctx), forall_stage_mem, mergeBack_canon'   one level of the loop read through the restricted
        solutions of its condition (`solsUnder`, `canonOf`); the chain theorems do not go through them.
  Both c10 theorems are instances of `chain_rows`.  How the proof is cut: a for_all compares and merges
  dictionaries, so inside it every output is described by its exact lookup table (`LK`: first the true
  outputs of the condition, `true_output_sound` / `true_output_complete`, then one step per level of the
  nesting, `lk_merge`, in `nested_spec`); between the conjuncts of the chain only the assignments extending
  an output matter (`ChainInv`, `stage_sound` / `stage_complete`, `chain_inv`; `stages_inv` is that
  invariant written out).
  Model only (correspondence, no theorem): a conjunct that mentions a universal variable free,
  caching (see C05-F3).
-/
import EqlModel.ForAll
import EqlModel.Lemmas.Cond
import EqlModel.NatWorld

namespace Eql
variable {V : Type}

variable (W : World V) (D : VarId → List V)

theorem mem_true_outputs {l : List (Bnd V × Bool)} {β' : Bnd V} :
    β' ∈ (l.filter fun q => !q.2).map (·.1) ↔ (β', false) ∈ l := by
  simp only [List.mem_map, List.mem_filter, Bool.not_eq_true']
  exact ⟨fun ⟨q, ⟨hq, h2⟩, e⟩ => e ▸ h2 ▸ hq, fun h => ⟨_, ⟨h, rfl⟩, rfl⟩⟩

def canonOf (ids : List VarId) (α : Asg V) : List (VarId × Option V) := ids.map fun k => (k, some (α k))

theorem mem_freeIds (c : Cond V) (u v : VarId) : v ∈ freeIds c u ↔ (v ∈ c.vars ∧ v ≠ u) := by
  simp [freeIds, List.mem_eraseDups]

theorem mem_idsN (c : Cond V) (u : VarId) (us : List VarId) (v : VarId) :
    v ∈ idsN c u us ↔ ((v ∈ c.vars ∨ v ∈ us) ∧ v ≠ u) := by
  simp [idsN, List.mem_eraseDups]

theorem idsN_nil (c : Cond V) (u : VarId) : idsN c u [] = freeIds c u := by
  simp only [idsN, freeIds, List.append_nil]

theorem lookup_filterMap_key (ids : List VarId) (f : VarId → Option V) (k : VarId) :
    (ids.filterMap fun j => (f j).map fun a => (j, a)).lookup k = if k ∈ ids then f k else none := by
  simpa only [Option.map_id_fun, id] using lookup_filterMap_inj (key := id) (fun _ _ h => h) (id : V → V) f k ids

theorem lookup_mergeBack (ids : List VarId) (f : VarId → Option V) (β : Bnd V) (k : VarId) :
    (mergeBack (ids.map fun j => (j, f j)) β).lookup k =
      if k ∈ ids then (f k).or (β.lookup k) else β.lookup k := by
  simp only [mergeBack, List.lookup_append, List.filterMap_map, Function.comp_def, lookup_filterMap_key]
  split <;> rfl

def upd (α : Asg V) (u : VarId) (o : V) : Asg V := fun v => if v = u then o else α v

theorem upd_self (α : Asg V) (u : VarId) (o : V) : upd α u o u = o := if_pos rfl

theorem upd_ne (α : Asg V) {u v : VarId} (o : V) (h : v ≠ u) : upd α u o v = α v := if_neg h

theorem ext_upd {β : Bnd V} {α : Asg V} {u : VarId} (o : V) (hβu : β.lookup u = none) (h : Ext β α) :
    Ext ((u, o) :: β) (upd α u o) :=
  (ext_cons_fresh hβu).2 ⟨upd_self α u o, fun v a hva => by
    rw [upd_ne α o fun e => by rw [e, hβu] at hva; cases hva]; exact h v a hva⟩

/-- `for_all(u₀, for_all(u₁, … c))` read over a total assignment: `c` holds for EVERY combination of
    values of the universal variables. -/
def SemN : List VarId → Cond V → Asg V → Prop
  | [], c, α => denote W α c = true
  | u :: us, c, α => ∀ o ∈ D u, SemN us c (upd α u o)

theorem semN_congr (c : Cond V) (hf : c.noFlat = true) : ∀ (us : List VarId) (α α' : Asg V),
    (∀ v ∈ c.vars, v ∉ us → α v = α' v) → (SemN W D us c α ↔ SemN W D us c α') := by
  intro us
  induction us with
  | nil => exact fun α α' h => by rw [SemN, SemN, denote_congr W c hf α α' fun v hv => h v hv List.not_mem_nil]
  | cons u us ih =>
    refine fun α α' h => forall₂_congr fun o _ => ih _ _ fun v hv hn => ?_
    by_cases e : v = u
    · rw [e, upd_self, upd_self]
    · rw [upd_ne _ _ e, upd_ne _ _ e]; exact h v hv fun hm => (List.mem_cons.1 hm).elim e hn

/-- What an output of a (nested) for_all binds: the non-universal variables of the condition, to the
    values of `α`; everything else as the incoming binding has it. -/
def LK (c : Cond V) (us : List VarId) (α : Asg V) (β β' : Bnd V) : Prop :=
  ∀ k, β'.lookup k = if k ∈ c.vars ∧ k ∉ us then some (α k) else β.lookup k

section
variable {D} {c : Cond V} {us : List VarId} {α : Asg V} {β β' : Bnd V}

theorem LK.bok (h : LK c us α β β') (hb : BOk D β) (hadm : ∀ v ∈ c.vars, v ∉ us → α v ∈ D v) :
    BOk D β' := by
  intro v a hva
  rw [h v] at hva
  split at hva
  · next hm => cases hva; exact hadm v hm.1 hm.2
  · exact hb v a hva

theorem LK.frame (h : LK c us α β β') {w : VarId} (hw : w ∈ c.vars → w ∈ us) :
    β'.lookup w = β.lookup w := by
  rw [h w, if_neg fun hm => hm.2 (hw hm.1)]

theorem LK.bound (h : LK c us α β β') (v : VarId) :
    bound β' v = true ↔ (v ∈ c.vars ∧ v ∉ us) ∨ bound β v = true := by
  rw [Eql.bound, h v]
  by_cases hm : v ∈ c.vars ∧ v ∉ us
  · rw [if_pos hm]; exact ⟨fun _ => .inl hm, fun _ => rfl⟩
  · rw [if_neg hm]; exact ⟨.inr, fun h => h.resolve_left hm⟩

theorem LK.ext_iff (h : LK c us α β β') (hβ : Ext β α) (α' : Asg V) :
    Ext β' α' ↔ Ext β α' ∧ ∀ v ∈ c.vars, v ∉ us → α' v = α v := by
  constructor
  · intro he
    have hag : ∀ v ∈ c.vars, v ∉ us → α' v = α v :=
      fun v hv hn => he v (α v) (by rw [h v, if_pos ⟨hv, hn⟩])
    refine ⟨fun v a hva => ?_, hag⟩
    by_cases hm : v ∈ c.vars ∧ v ∉ us
    · rw [hag v hm.1 hm.2]; exact hβ v a hva
    · exact he v a (by rw [h v, if_neg hm]; exact hva)
  · rintro ⟨he, hag⟩ v a hva
    rw [h v] at hva
    split at hva
    · next hm => cases hva; exact hag v hm.1 hm.2
    · exact he v a hva

end

theorem lk_base (c : Cond V) (hf : c.noFlat = true) (hu : Cond.uniformOr c) (β β' : Bnd V)
    (h : (β', false) ∈ evalCond W D c β false) (α : Asg V) (he : Ext β' α) : LK c [] α β β' := by
  intro k
  by_cases hk : k ∈ c.vars
  · obtain ⟨a, ha⟩ := bound_iff.1 (true_output_total W D c hf hu β β' false h k hk)
    rw [if_pos ⟨hk, List.not_mem_nil⟩, ha, he k a ha]
  · rw [if_neg fun hm => hk hm.1]; exact cond_frame W D c hf β β' false false h k hk

theorem true_output_sound [Inhabited V] (c : Cond V) (hf : c.noFlat = true) (hu : Cond.uniformOr c) (β : Bnd V)
    (hb : BOk D β) (β' : Bnd V) (h : (β', false) ∈ evalCond W D c β false) :
    ∃ α, Ext β α ∧ (∀ v ∈ c.vars, α v ∈ D v) ∧ denote W α c = true ∧ LK c [] α β β' := by
  obtain ⟨_, hadm, hext, hden⟩ := true_output_asg W D c hf hu β β' false hb h
  exact ⟨_, hext, hadm, hden, lk_base W D c hf hu β β' h _ (ext_asgOf β')⟩

theorem true_output_complete (c : Cond V) (hf : c.noFlat = true) (hu : Cond.uniformOr c) (β : Bnd V)
    (α : Asg V) (hext : Ext β α) (hadm : ∀ v ∈ c.vars, α v ∈ D v) (hden : denote W α c = true) :
    ∃ β', (β', false) ∈ evalCond W D c β false ∧ LK c [] α β β' := by
  obtain ⟨β', h, he⟩ := cond_complete_true W D c hf β α hext hadm hden
  exact ⟨β', h, lk_base W D c hf hu β β' h α he⟩

/-- The restriction a level computes from an output of the level below. -/
def canonG (c : Cond V) (us ids : List VarId) (α : Asg V) (β : Bnd V) : List (VarId × Option V) :=
  ids.map fun k => (k, if k ∈ c.vars ∧ k ∉ us then some (α k) else β.lookup k)

theorem canonG_inj {c : Cond V} {us ids : List VarId} {α α' : Asg V} {β : Bnd V}
    (h : canonG c us ids α β = canonG c us ids α' β) {v : VarId} (hv : v ∈ ids) (hm : v ∈ c.vars ∧ v ∉ us) :
    α v = α' v := by
  have := (Prod.mk.inj (List.map_inj_left.1 h v hv)).2
  rwa [if_pos hm, if_pos hm, Option.some.injEq] at this

theorem restrict_lk {c : Cond V} {u : VarId} {us : List VarId} {o : V} {α α' : Asg V} {β β'' : Bnd V}
    (h : LK c us α' ((u, o) :: β) β'') (hα : ∀ k, k ≠ u → α' k = α k) :
    restrictTo (idsN c u us) β'' = canonG c us (idsN c u us) α β := by
  refine List.map_congr_left fun k hk => ?_
  have hne : k ≠ u := ((mem_idsN c u us k).1 hk).2
  rw [h k, lookup_cons_ne β o hne, hα k hne]

theorem lk_merge (c : Cond V) (u : VarId) (us : List VarId) (α : Asg V) (β : Bnd V) :
    LK c (u :: us) α β (mergeBack (canonG c us (idsN c u us) α β) β) := by
  intro k
  simp only [canonG, lookup_mergeBack, mem_idsN]
  by_cases hA : k ∈ c.vars ∧ k ∉ u :: us
  · have hB : k ∈ c.vars ∧ k ∉ us := ⟨hA.1, fun h => hA.2 (List.mem_cons_of_mem _ h)⟩
    rw [if_pos ⟨Or.inl hA.1, fun e => hA.2 (e ▸ List.mem_cons_self)⟩, if_pos hB, if_pos hA, Option.some_or]
  · rw [if_neg hA]
    split
    · next hk =>
      rw [if_neg fun hB => hA ⟨hB.1, fun h => (List.mem_cons.1 h).elim hk.2 hB.2⟩, Option.or_self]
    · rfl

/-- What a conjunct says about a total assignment. -/
def Stage.sem : Stage V → Asg V → Prop
  | .cond c, α => denote W α c = true
  | .forAll us c, α => SemN W D us c α

/-- The conjuncts the theorem covers; `U` = the universal variables of the chain (mentioned by no
    ordinary conjunct, and by a for_all only as one of its own universal variables). -/
def Stage.ok (U : List VarId) : Stage V → Prop
  | .cond c => c.noFlat = true ∧ ∀ v ∈ c.vars, v ∉ U
  | .forAll us c => c.noFlat = true ∧ Cond.uniformOr c ∧ us.Nodup ∧ (∀ u ∈ us, D u ≠ [] ∧ u ∈ U) ∧
      ∀ v ∈ c.vars, v ∈ U → v ∈ us

def Stage.vars : Stage V → List VarId
  | .cond c => c.vars
  | .forAll us c => c.vars.filter fun v => !us.contains v

/-- The variables EVERY output of a conjunct binds: a for_all returns all of its condition's other
    variables; a true output of an ordinary condition may leave variables of a disjunction unbound. -/
def Stage.binds : Stage V → List VarId
  | .cond _ => []
  | .forAll us c => (Stage.forAll us c).vars

theorem mem_forAll_vars {us : List VarId} {c : Cond V} {v : VarId} :
    v ∈ (Stage.forAll us c).vars ↔ v ∈ c.vars ∧ v ∉ us := by
  simp [Stage.vars]

theorem solsUnder_eq [BEq V] (c : Cond V) (ids : List VarId) (ctx : Bnd V) :
    solsUnder W D c ids ctx = (evalForAllN W D [] c ctx).map (restrictTo ids) := by
  simp only [solsUnder, evalForAllN, List.map_map, Function.comp_def]

theorem evalForAllN_single [BEq V] (u : VarId) (c : Cond V) (β : Bnd V) :
    evalForAllN W D [u] c β = evalForAll W D u c β := by
  simp only [evalForAllN, evalForAllG, evalForAll, idsN_nil, solsUnder_eq]

theorem solsUnder_mem [BEq V] [Inhabited V] (c : Cond V) (hf : c.noFlat = true) (hu : Cond.uniformOr c) (ids : List VarId)
    (hids : ∀ k ∈ ids, k ∈ c.vars) (β : Bnd V) (hb : BOk D β) (d : List (VarId × Option V)) :
    d ∈ solsUnder W D c ids β ↔
      ∃ α, Ext β α ∧ (∀ v ∈ c.vars, α v ∈ D v) ∧ denote W α c = true ∧ d = canonOf ids α := by
  have hres : ∀ {α β'}, LK c [] α β β' → restrictTo ids β' = canonOf ids α :=
    fun h => List.map_congr_left fun k hk => by rw [h k, if_pos ⟨hids k hk, List.not_mem_nil⟩]
  rw [solsUnder_eq, List.mem_map]
  simp only [evalForAllN, mem_true_outputs]
  constructor
  · rintro ⟨β', h, rfl⟩
    obtain ⟨α, hext, hadm, hden, hlk⟩ := true_output_sound W D c hf hu β hb β' h
    exact ⟨α, hext, hadm, hden, hres hlk⟩
  · rintro ⟨α, hext, hadm, hden, rfl⟩
    obtain ⟨β', h, hlk⟩ := true_output_complete W D c hf hu β α hext hadm hden
    exact ⟨β', h, hres hlk⟩

variable [BEq V] [LawfulBEq V]

theorem forallG_mem (u : VarId) (ids : List VarId) (evalC : Bnd V → List (Bnd V)) (hD : D u ≠ [])
    (β : Bnd V) (hβu : β.lookup u = none) (β' : Bnd V) :
    β' ∈ evalForAllG W D u ids evalC β ↔
      ∃ d0, (∀ o ∈ D u, d0 ∈ (evalC ((u, o) :: β)).map (restrictTo ids)) ∧ β' = mergeBack d0 β := by
  simp only [evalForAllG, evalTerm, hβu]
  cases hDu : D u with
  | nil => exact absurd hDu hD
  | cons o1 os =>
    rw [List.map_cons, List.mem_map]
    simp only [mem_foldl_filter_contains (fun p' : Bnd V × V => (evalC p'.1).map (restrictTo ids)),
      List.forall_mem_map, List.forall_mem_cons, eq_comm]

section Chain
variable [Inhabited V]

theorem mergeBack_canon' (ids : List VarId) (α : Asg V) (β : Bnd V) :
    mergeBack (canonOf ids α) β = (ids.map fun k => (k, α k)) ++ β := by
  simp only [mergeBack, canonOf, List.filterMap_map, Function.comp_def, Option.map_some,
    List.filterMap_eq_map']

theorem forall_stage_mem (u : VarId) (c : Cond V) (hD : D u ≠ []) (β : Bnd V)
    (hβu : β.lookup u = none) (β' : Bnd V) :
    β' ∈ evalForAll W D u c β ↔
      ∃ d0, (∀ o ∈ D u, d0 ∈ solsUnder W D c (freeIds c u) ((u, o) :: β)) ∧ β' = mergeBack d0 β := by
  rw [← evalForAllN_single, evalForAllN, idsN_nil, forallG_mem W D u _ _ hD β hβu]
  simp only [solsUnder_eq]

theorem sols_mem_ctx (u : VarId) (o : V) (ho : o ∈ D u) (β : Bnd V) (hb : BOk D β)
    (hβu : β.lookup u = none) (c : Cond V) (hf : c.noFlat = true)
    (hu : Cond.uniformOr c) (d : List (VarId × Option V)) :
    d ∈ solsUnder W D c (freeIds c u) ((u, o) :: β) ↔
      ∃ α, α u = o ∧ Ext β α ∧ (∀ v ∈ c.vars, α v ∈ D v) ∧ denote W α c = true ∧
        d = canonOf (freeIds c u) α := by
  simp only [solsUnder_mem W D c hf hu _ (fun k hk => ((mem_freeIds c u k).1 hk).1) _ (bok_cons hb ho) d,
    ext_cons_fresh hβu, and_assoc]

theorem nested_spec (c : Cond V) (hf : c.noFlat = true) (hu : Cond.uniformOr c) :
    ∀ (us : List VarId), us.Nodup → (∀ u ∈ us, D u ≠ []) → ∀ (β : Bnd V), BOk D β →
    (∀ u ∈ us, β.lookup u = none) →
    (∀ β' ∈ evalForAllN W D us c β,
      ∃ α, Ext β α ∧ (∀ v ∈ c.vars, v ∉ us → α v ∈ D v) ∧ SemN W D us c α ∧ LK c us α β β') ∧
    (∀ α, Ext β α → (∀ v ∈ c.vars, v ∉ us → α v ∈ D v) → SemN W D us c α →
      ∃ β' ∈ evalForAllN W D us c β, LK c us α β β') := by
  intro us
  induction us with
  | nil =>
    refine fun _ _ β hb _ => ⟨fun β' h => ?_, fun α hext hadm hsem => ?_⟩
    · obtain ⟨α, hext, hadm, hden, hlk⟩ := true_output_sound W D c hf hu β hb β' (mem_true_outputs.1 h)
      exact ⟨α, hext, fun v hv _ => hadm v hv, hden, hlk⟩
    · obtain ⟨β', h, hlk⟩ :=
        true_output_complete W D c hf hu β α hext (fun v hv => hadm v hv List.not_mem_nil) hsem
      exact ⟨β', mem_true_outputs.2 h, hlk⟩
  | cons u us ih0 =>
    intro hnd hDs β hb hc
    obtain ⟨hnu, hnd'⟩ := List.nodup_cons.1 hnd
    obtain ⟨hDu, hDs'⟩ := List.forall_mem_cons.1 hDs
    obtain ⟨hβu, hc'⟩ := List.forall_mem_cons.1 hc
    have ih := fun o (ho : o ∈ D u) => ih0 hnd' hDs' ((u, o) :: β) (bok_cons hb ho) fun w hw => by
      rw [lookup_cons_ne β o fun e : w = u => hnu (e ▸ hw)]
      exact hc' w hw
    refine ⟨fun β' h => ?_, fun α hext hadm hsem => ?_⟩
    · obtain ⟨d0, hd0, rfl⟩ := (forallG_mem W D u _ _ hDu β hβu β').1 h
      have hlev : ∀ o ∈ D u, ∃ α, α u = o ∧ Ext β α ∧ (∀ v ∈ c.vars, v ∉ us → α v ∈ D v) ∧
          SemN W D us c α ∧ d0 = canonG c us (idsN c u us) α β := by
        intro o ho
        obtain ⟨β'', hβ'', hr⟩ := List.mem_map.1 (hd0 o ho)
        obtain ⟨α, hext, hadm, hsem, hlk⟩ := (ih o ho).1 β'' hβ''
        have hx := (ext_cons_fresh hβu).1 hext
        exact ⟨α, hx.1, hx.2, hadm, hsem, hr ▸ restrict_lk hlk fun _ _ => rfl⟩
      -- the first universal value names the assignment; the others agree with it off `u`
      obtain ⟨o1, ho1⟩ := List.exists_mem_of_ne_nil _ hDu
      obtain ⟨α1, _, hext1, hadm1, _, hd1⟩ := hlev o1 ho1
      refine ⟨α1, hext1, fun v hv hn => hadm1 v hv fun h => hn (List.mem_cons_of_mem _ h),
        fun o ho => ?_, hd1 ▸ lk_merge c u us α1 β⟩
      obtain ⟨αo, hαu, _, _, hsem, hdo⟩ := hlev o ho
      refine (semN_congr W D c hf us _ _ fun v hv hn => ?_).2 hsem
      by_cases e : v = u
      · rw [e, upd_self, hαu]
      · rw [upd_ne _ _ e]
        exact canonG_inj (hd1.symm.trans hdo) ((mem_idsN c u us v).2 ⟨Or.inl hv, e⟩) ⟨hv, hn⟩
    · refine ⟨_, (forallG_mem W D u _ _ hDu β hβu _).2 ⟨_, fun o ho => ?_, rfl⟩, lk_merge c u us α β⟩
      obtain ⟨β'', hβ'', hlk⟩ := (ih o ho).2 (upd α u o) (ext_upd o hβu hext)
        (fun v hv hn => by
          by_cases e : v = u
          · rw [e, upd_self]; exact ho
          · rw [upd_ne α o e]; exact hadm v hv fun hm => (List.mem_cons.1 hm).elim e hn)
        (hsem o ho)
      exact List.mem_map.2 ⟨β'', hβ'', restrict_lk hlk fun k hk => upd_ne α o hk⟩

theorem nested_sound (c : Cond V) (hf : c.noFlat = true) (hu : Cond.uniformOr c) :
    ∀ (us : List VarId), us.Nodup → (∀ u ∈ us, D u ≠ []) → ∀ (β : Bnd V), BOk D β →
    (∀ u ∈ us, β.lookup u = none) → ∀ β', β' ∈ evalForAllN W D us c β →
    ∃ α, Ext β α ∧ (∀ v ∈ c.vars, v ∉ us → α v ∈ D v) ∧ SemN W D us c α ∧ LK c us α β β' :=
  fun us hnd hDs β hb hc => (nested_spec W D c hf hu us hnd hDs β hb hc).1

theorem nested_complete (c : Cond V) (hf : c.noFlat = true) (hu : Cond.uniformOr c) :
    ∀ (us : List VarId), us.Nodup → (∀ u ∈ us, D u ≠ []) → ∀ (β : Bnd V), BOk D β →
    (∀ u ∈ us, β.lookup u = none) → ∀ (α : Asg V), Ext β α → (∀ v ∈ c.vars, v ∉ us → α v ∈ D v) →
    SemN W D us c α → ∃ β' ∈ evalForAllN W D us c β, LK c us α β β' :=
  fun us hnd hDs β hb hc => (nested_spec W D c hf hu us hnd hDs β hb hc).2

/-- The bindings reached after the conjuncts `done`: in their domains, no universal variable bound,
    exactly the admissible assignments that satisfy `done` extend one of them; and the ids `B` are bound. -/
def ChainInv (U VS : List VarId) (done : List (Stage V)) (B : VarId → Prop) (bs : List (Bnd V)) : Prop :=
  (∀ β ∈ bs, (BOk D β ∧ (∀ u ∈ U, β.lookup u = none) ∧
      ∀ α, (∀ v ∈ VS, α v ∈ D v) → Ext β α → ∀ s ∈ done, Stage.sem W D s α) ∧
    ∀ v, B v → bound β v = true) ∧
  (∀ α, (∀ v ∈ VS, α v ∈ D v) → (∀ s ∈ done, Stage.sem W D s α) → ∃ β ∈ bs, Ext β α)

theorem stage_sound (U VS : List VarId) (s : Stage V) (hok : Stage.ok D U s)
    (hvs : ∀ v ∈ s.vars, v ∈ VS) (β β' : Bnd V) (hb : BOk D β) (hc : ∀ u ∈ U, β.lookup u = none)
    (h : β' ∈ evalStage W D s β) :
    (BOk D β' ∧ (∀ u ∈ U, β'.lookup u = none) ∧
      ∀ α, (∀ v ∈ VS, α v ∈ D v) → Ext β' α → Ext β α ∧ Stage.sem W D s α) ∧
    ∀ v, bound β v = true ∨ v ∈ s.binds → bound β' v = true := by
  cases s with
  | cond c =>
    obtain ⟨hf, hcu⟩ := hok
    rw [evalStage, mem_true_outputs] at h
    refine ⟨⟨cond_bok W D c hf β β' false false hb h, fun u hu => ?_, fun α hadm hext => ?_⟩, ?_⟩
    · rw [cond_frame W D c hf β β' false false h u fun hm => hcu u hm hu]; exact hc u hu
    · exact cond_sound W D c hf β β' false false h α (fun v hv => hadm v (hvs v hv)) hext
    · rintro v (hv | hv)
      · exact bound_of_sub (cond_sub W D c hf β β' false false h) hv
      · cases hv
  | forAll us c =>
    obtain ⟨hf, hu, hnd, hUs, hcu⟩ := hok
    obtain ⟨α1, hext1, hadm1, hsem1, hlk⟩ := nested_sound W D c hf hu us hnd (fun w hw => (hUs w hw).1) β hb
      (fun w hw => hc w (hUs w hw).2) β' h
    refine ⟨⟨hlk.bok hb hadm1, fun w hw => ?_, fun α _ hext => ?_⟩, fun v hv => (hlk.bound v).2 ?_⟩
    · rw [hlk.frame fun hm => hcu w hm hw]; exact hc w hw
    · obtain ⟨he, hag⟩ := (hlk.ext_iff hext1 α).1 hext
      exact ⟨he, (semN_congr W D c hf us α α1 hag).2 hsem1⟩
    · exact hv.symm.imp mem_forAll_vars.1 id

theorem stage_complete (U VS : List VarId) (s : Stage V) (hok : Stage.ok D U s)
    (hvs : ∀ v ∈ s.vars, v ∈ VS) (β : Bnd V) (hb : BOk D β) (hc : ∀ u ∈ U, β.lookup u = none)
    (α : Asg V) (hadm : ∀ v ∈ VS, α v ∈ D v) (hext : Ext β α) (hsem : Stage.sem W D s α) :
    ∃ β' ∈ evalStage W D s β, Ext β' α := by
  cases s with
  | cond c =>
    obtain ⟨β', h, he⟩ := cond_complete_true W D c hok.1 β α hext (fun v hv => hadm v (hvs v hv)) hsem
    exact ⟨β', mem_true_outputs.2 h, he⟩
  | forAll us c =>
    obtain ⟨hf, hu, hnd, hUs, _⟩ := hok
    obtain ⟨β', hβ', hlk⟩ := nested_complete W D c hf hu us hnd (fun w hw => (hUs w hw).1) β hb
      (fun w hw => hc w (hUs w hw).2) α hext
      (fun v hv hn => hadm v (hvs v (mem_forAll_vars.2 ⟨hv, hn⟩))) hsem
    exact ⟨β', hβ', (hlk.ext_iff hext α).2 ⟨hext, fun _ _ _ => rfl⟩⟩

theorem stage_step (U VS : List VarId) (s : Stage V) (hok : Stage.ok D U s) (hvs : ∀ v ∈ s.vars, v ∈ VS)
    (done : List (Stage V)) (B : VarId → Prop) (bs : List (Bnd V)) (h : ChainInv W D U VS done B bs) :
    ChainInv W D U VS (done ++ [s]) (fun v => B v ∨ v ∈ s.binds) (bs.flatMap (evalStage W D s)) := by
  refine ⟨fun β' hβ' => ?_, fun α hadm hall => ?_⟩
  · obtain ⟨β, hβ, hβ'⟩ := List.mem_flatMap.1 hβ'
    obtain ⟨⟨hb, hc, hd⟩, hB⟩ := h.1 β hβ
    obtain ⟨⟨hb', hc', hs'⟩, hB'⟩ := stage_sound W D U VS s hok hvs β β' hb hc hβ'
    refine ⟨⟨hb', hc', fun α hadm hext t ht => ?_⟩, fun v hv => hB' v (hv.imp_left (hB v))⟩
    obtain ⟨hext0, hsem⟩ := hs' α hadm hext
    exact (List.mem_append.1 ht).elim (hd α hadm hext0 t) fun ht => List.mem_singleton.1 ht ▸ hsem
  · obtain ⟨β, hβ, hext⟩ := h.2 α hadm fun t ht => hall t (List.mem_append_left _ ht)
    obtain ⟨⟨hb, hc, _⟩, _⟩ := h.1 β hβ
    obtain ⟨β', hβ', hext'⟩ := stage_complete W D U VS s hok hvs β hb hc α hadm hext
      (hall s (List.mem_append_right _ (List.mem_singleton_self s)))
    exact ⟨β', List.mem_flatMap.2 ⟨β, hβ, hβ'⟩, hext'⟩

theorem chain_inv (U VS : List VarId) (stages : List (Stage V))
    (hok : ∀ s ∈ stages, Stage.ok D U s ∧ ∀ v ∈ s.vars, v ∈ VS) (done : List (Stage V)) (B : VarId → Prop)
    (bs : List (Bnd V)) (h : ChainInv W D U VS done B bs) :
    ChainInv W D U VS (done ++ stages) (fun v => B v ∨ ∃ s ∈ stages, v ∈ s.binds)
      (stages.foldl (fun bs s => bs.flatMap (evalStage W D s)) bs) := by
  induction stages generalizing done B bs with
  | nil => simpa only [List.append_nil, List.foldl_nil, List.not_mem_nil, false_and, exists_false, or_false] using h
  | cons s rest ih =>
    have hs := hok s List.mem_cons_self
    have := ih (fun t ht => hok t (List.mem_cons_of_mem _ ht)) _ _ _ (stage_step W D U VS s hs.1 hs.2 done B bs h)
    simpa only [List.append_assoc, List.singleton_append, List.foldl_cons, List.mem_cons, exists_eq_or_imp,
      or_assoc] using this

theorem stages_inv (U VS : List VarId) : ∀ (stages done : List (Stage V)) (bs : List (Bnd V)),
    (∀ s ∈ stages, Stage.ok D U s ∧ ∀ v ∈ s.vars, v ∈ VS) →
    (∀ β ∈ bs, BOk D β ∧ (∀ u ∈ U, β.lookup u = none) ∧
      ∀ α, (∀ v ∈ VS, α v ∈ D v) → Ext β α → ∀ s ∈ done, Stage.sem W D s α) →
    (∀ α, (∀ v ∈ VS, α v ∈ D v) → (∀ s ∈ done, Stage.sem W D s α) → ∃ β ∈ bs, Ext β α) →
    (∀ β ∈ stages.foldl (fun bs s => bs.flatMap (evalStage W D s)) bs,
      BOk D β ∧ (∀ u ∈ U, β.lookup u = none) ∧
      ∀ α, (∀ v ∈ VS, α v ∈ D v) → Ext β α → ∀ s ∈ done ++ stages, Stage.sem W D s α) ∧
    (∀ α, (∀ v ∈ VS, α v ∈ D v) → (∀ s ∈ done ++ stages, Stage.sem W D s α) →
      ∃ β ∈ stages.foldl (fun bs s => bs.flatMap (evalStage W D s)) bs, Ext β α) := by
  intro stages done bs hok h1 h2
  have := chain_inv W D U VS stages hok done (fun _ => False) bs ⟨fun β hβ => ⟨h1 β hβ, nofun⟩, h2⟩
  exact ⟨fun β hβ => (this.1 β hβ).1, this.2⟩

/-- A variable of `VS` needs a value to take only if no output is sure to bind it: if it is neither
    selected nor a free variable of a for_all. -/
theorem chain_rows (sel : List (Term V)) (stages : List (Stage V)) (U VS : List VarId)
    (hfs : Terms.noFlat sel = true) (hok : ∀ s ∈ stages, Stage.ok D U s)
    (hvs : ∀ s ∈ stages, ∀ v ∈ s.vars, v ∈ VS) (hsel : ∀ v ∈ Terms.vars sel, v ∈ VS)
    (hne : ∀ v ∈ VS, v ∈ Terms.vars sel ∨ (∃ s ∈ stages, v ∈ s.binds) ∨ D v ≠ []) (r : List V) :
    r ∈ rowsStages W D sel stages ↔
      ∃ α, (∀ v ∈ VS, α v ∈ D v) ∧ (∀ s ∈ stages, Stage.sem W D s α) ∧ r = termsVal W α sel := by
  have hinv := chain_inv W D U VS stages (fun s hs => ⟨hok s hs, hvs s hs⟩) [] (fun _ => False) [[]]
    ⟨List.forall_mem_singleton.2 ⟨⟨bok_nil D, fun _ _ => rfl, fun _ _ _ _ => nofun⟩, nofun⟩,
      fun α _ _ => ⟨[], List.mem_singleton_self _, ext_nil α⟩⟩
  simp only [List.nil_append, false_or] at hinv
  simp only [rowsStages, evalStages, List.mem_flatMap]
  constructor
  · rintro ⟨β, hβ, hr⟩
    obtain ⟨q, hq, rfl⟩ := List.mem_map.1 hr
    obtain ⟨⟨hb, _, hsems⟩, hB⟩ := hinv.1 β hβ
    obtain ⟨α, hadm, hext, he⟩ := args_row_sound W D sel hfs VS β hb
      (fun v hv => (hne v hv).imp_right (Or.imp_left (hB v))) q hq
    exact ⟨α, hadm, hsems α hadm hext, he⟩
  · rintro ⟨α, hadm, hsems, rfl⟩
    obtain ⟨β, hβ, hext⟩ := hinv.2 α hadm hsems
    exact ⟨β, hβ, args_row_complete W D sel hfs β α hext fun v hv => hadm v (hsel v hv)⟩

/-- **C10, combined with other conditions by `and_`.**  For a chain of conjuncts - ordinary
    conditions and for_alls whose conditions have uniform disjunctions, over non-empty domains,
    in ANY order, several for_alls over the same universal variable and NESTED for_alls
    `for_all(u₀, for_all(u₁, … c))` included -
    `an(set_of(sel, s₁, s₂, …))` returns exactly the projections of the assignments that satisfy
    every ordinary conjunct and satisfy every for_all's condition for EVERY (combination of) value(s)
    of its universal variable(s).  (Partial: non-uniform disjunctions inside a for_all - C10-F1 - and
    conjuncts that mention a universal variable free are outside the statement.) -/
theorem c10_and_chain_partial (sel : List (Term V)) (stages : List (Stage V)) (U VS : List VarId)
    (hfs : Terms.noFlat sel = true) (hok : ∀ s ∈ stages, Stage.ok D U s)
    (hvs : ∀ s ∈ stages, ∀ v ∈ s.vars, v ∈ VS) (hsel : ∀ v ∈ Terms.vars sel, v ∈ VS)
    (hne : ∀ v ∈ VS, D v ≠ []) (r : List V) :
    r ∈ rowsStages W D sel stages ↔
      ∃ α, (∀ v ∈ VS, α v ∈ D v) ∧ (∀ s ∈ stages, Stage.sem W D s α) ∧ r = termsVal W α sel :=
  chain_rows W D sel stages U VS hfs hok hvs hsel (fun v hv => .inr (.inr (hne v hv))) r

theorem rowsForAll_eq_stages (sel : List (Term V)) (d : Cond V) (hd : d.noFlat = true) (u : VarId) (c : Cond V) :
    rowsForAll W D sel (some d) u c = rowsStages W D sel [.cond d, .forAll [u] c] := by
  have hfil : ((evalCond W D d [] false).filter fun q => !q.2) = evalCond W D d [] false :=
    List.filter_eq_self.2 fun q hq => by
      rw [evalCond_flag W D d hq]; rfl
  simp only [rowsForAll, rowsStages, evalStages, List.foldl_cons, List.foldl_nil, List.flatMap_cons,
    List.flatMap_nil, List.append_nil, evalStage, hfil, evalForAllN_single, List.flatMap_map]

theorem rowsForAll_eq_stages_none (sel : List (Term V)) (u : VarId) (c : Cond V) :
    rowsForAll W D sel none u c = rowsStages W D sel [.forAll [u] c] := by
  simp only [rowsForAll, rowsStages, evalStages, List.foldl_cons, List.foldl_nil, List.flatMap_cons,
    List.flatMap_nil, List.append_nil, evalStage, evalForAllN_single]

end Chain

theorem sols_mem [Inhabited V] (u : VarId) (o : V) (ho : o ∈ D u) (c : Cond V) (hf : c.noFlat = true)
    (hu : Cond.uniformOr c) (d : List (VarId × Option V)) :
    d ∈ solsUnder W D c (freeIds c u) [(u, o)] ↔
      ∃ α, α u = o ∧ (∀ v ∈ c.vars, α v ∈ D v) ∧ denote W α c = true ∧ d = canonOf (freeIds c u) α := by
  simp only [sols_mem_ctx W D u o ho [] (bok_nil D) rfl c hf hu d, ext_nil, true_and]

/-- **C10.** For a non-empty universal domain and a condition whose disjunctions are uniform,
    `for_all(u, c)` yields exactly the bindings of the other variables for which `c` is true for
    every value of `u` (projected on the selected expressions) - whatever else the form of `c`
    (conjunctions, negations, comparisons between free and universal variables, conditions mentioning
    only free variables). -/
theorem c10_forall_uniform_partial [Inhabited V] (sel : List (Term V)) (u : VarId) (c : Cond V)
    (hf : c.noFlat = true) (hfs : Terms.noFlat sel = true) (hu : Cond.uniformOr c)
    (hD : D u ≠ []) (r : List V) :
    r ∈ rowsForAll W D sel none u c ↔
      ∃ α, (∀ v ∈ freeIds c u ++ Terms.vars sel, α v ∈ D v) ∧
           (∀ o ∈ D u, denote W (upd α u o) c = true) ∧ r = termsVal W α sel := by
  have hvars : ∀ v, v ∈ (Stage.forAll [u] c).vars ↔ v ∈ freeIds c u := fun v => by
    rw [mem_forAll_vars, mem_freeIds, List.mem_singleton]
  rw [rowsForAll_eq_stages_none, chain_rows W D sel [.forAll [u] c] [u] (freeIds c u ++ Terms.vars sel) hfs]
  · exact exists_congr fun α => and_congr_right' (and_congr_left' List.forall_mem_singleton)
  · intro s hs
    rw [List.mem_singleton.1 hs]
    exact ⟨hf, hu, List.pairwise_singleton _ u, fun w hw => ⟨List.mem_singleton.1 hw ▸ hD, hw⟩, fun _ _ h => h⟩
  · exact fun s hs v hv => List.mem_append_left _ ((hvars v).1 (List.mem_singleton.1 hs ▸ hv))
  · exact fun v hv => List.mem_append_right _ hv
  · intro v hv
    rcases List.mem_append.1 hv with h | h
    · exact .inr (.inl ⟨_, List.mem_singleton_self _, (hvars v).2 h⟩)
    · exact .inl h

/-- **Counter-witness to the unrestricted statement** (known finding C10-F1):
    `for_all(u, or_(x == u, y > 2))` with X = [1], Y = [3, 4], U = [1, 2].  For every value of `u`
    the condition holds of (x, y) = (1, 3) and (1, 4), but the evaluation returns nothing: the true
    output for u = 1 leaves `y` unbound, the one for u = 2 binds it, and the intersection compares
    bindings of different shapes. -/
theorem c10_nonuniform_witness :
    let D : VarId → List Nat := fun v => if v = 0 then [1] else if v = 1 then [3, 4] else [1, 2]
    let c : Cond Nat := .elseIf (.cmp .eq (.var 0) (.var 2)) (.cmp .gt (.var 1) (.lit 2))
    rowsForAll natWorld D [.var 0, .var 1] none 2 c = [] ∧
    (∀ o ∈ D 2, denote natWorld (upd (fun v => if v = 0 then 1 else 3) 2 o) c = true) ∧
    ¬ Cond.uniformOr c := by
  refine ⟨by decide +kernel, by decide +kernel, ?_⟩
  intro h
  have := (h.1 1).2 (by simp [Cond.vars, Term.vars])
  simp [Cond.vars, Term.vars] at this

/-- Non-vacuity of the partial theorem: a uniform condition relating the free and the universal
    variable, two universal values, a non-trivial answer. -/
example :
    let D : VarId → List Nat := fun v => if v = 0 then [1, 2, 3] else [1, 2]
    rowsForAll natWorld D [.var 0] none 1 (.cmp .ge (.var 0) (.var 1)) = [[2], [3]] := by decide +kernel

/-- Non-vacuity of the chain theorem: an ordinary conjunct written AFTER two for_alls over the same
    universal variable; the answer is neither empty nor everything. -/
example :
    let D : VarId → List Nat := fun v => if v = 0 then [1, 2, 3, 4] else [1, 2]
    rowsStages natWorld D [.var 0]
      [.forAll [1] (.cmp .ge (.var 0) (.var 1)), .forAll [1] (.cmp .ne (.var 0) (.var 1)),
       .cond (.cmp .lt (.var 0) (.lit 4))] = [[3]] := by decide +kernel

/-- … and a nested for_all: `for_all(u, for_all(v, x ≥ u ∧ u ≥ v))` - an instance of the chain theorem
    (its hypotheses are met: next example). -/
example :
    let D : VarId → List Nat := fun v => if v = 0 then [1, 2, 3] else if v = 1 then [2, 3] else [1, 2]
    rowsStages natWorld D [.var 0]
      [.forAll [1, 2] (.and (.cmp .ge (.var 0) (.var 1)) (.cmp .ge (.var 1) (.var 2)))] = [[3]] := by decide +kernel

example :
    let D : VarId → List Nat := fun v => if v = 0 then [1, 2, 3] else if v = 1 then [2, 3] else [1, 2]
    Stage.ok D [1, 2] (Stage.forAll [1, 2]
      (Cond.and (.cmp .ge (.var 0) (.var 1)) (.cmp .ge (.var 1) (.var 2)) : Cond Nat)) := by
  intro D
  refine ⟨by decide +kernel, ?_, by decide +kernel, ?_, ?_⟩
  · simp [Cond.uniformOr]
  · intro u hu
    simp only [List.mem_cons, List.not_mem_nil, or_false] at hu
    rcases hu with rfl | rfl <;> simp [D]
  · intro v hv hU; exact hU

end Eql
