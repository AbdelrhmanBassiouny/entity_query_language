/-
  C14 — a variable without a domain ranges over exactly the live registry of instances.

  Model: `EqlModel/Registry.lean`.  For every class hierarchy (`sub` is arbitrary) and every
  history of concrete constructions (any style: they all reach the same `hybrid_new`), symbolic
  constructions, rule inference (a concrete construction) and clears:
    c14_registry       a no-domain variable of type T, declared and evaluated after the history,
                       yields exactly the instances of T and of its subclasses constructed
                       concretely since the last clear (the harness's own log) ...
    c14_each_once      ... each once
    c14_symbolic_inert constructing symbolically registers nothing and runs no initialisation
    c14_inits          the class's own initialisation ran once per concrete construction
  Reading (as in the property's observe_at): declare-and-evaluate atomically.  A query declared earlier
  and evaluated later takes its domain when it is first evaluated (fix 1dc3003); a re-evaluated query
  sees a stale registry (not part of the verdict).
-/
import EqlModel.Registry

namespace Eql.Registry

variable (sub : Cls → Cls → Bool)

/-- Only a permutation: the store groups instances by class. -/
theorem perm_query_register (store : List (Cls × List Inst)) (c : Cls) (i : Inst) (t : Cls) :
    (query sub { store := register store c i } t).Perm
      ((if sub c t then [i] else []) ++ query sub { store := store } t) := by
  induction store with
  | nil => exact .refl _
  | cons p rest ih =>
    rw [register]
    split
    · next e =>
      subst e
      show ((if sub p.1 t then p.2 ++ [i] else []) ++ query sub { store := rest } t).Perm
        ((if sub p.1 t then [i] else []) ++ ((if sub p.1 t then p.2 else []) ++ query sub { store := rest } t))
      cases sub p.1 t with
      | false => exact .refl _
      | true =>
        show ((p.2 ++ [i]) ++ _).Perm (i :: (p.2 ++ _))
        rw [List.append_assoc]; exact List.perm_middle
    · exact (List.Perm.append_left _ ih).trans (List.perm_append_comm_assoc ..)

/-- The state agrees with the log of concrete constructions since the last clear. -/
structure Inv (s : RState) (log : List (Inst × Cls)) : Prop where
  fresh : ∀ p ∈ log, p.1 < s.next
  nodup : (log.map (·.1)).Nodup
  query : ∀ t, (query sub s t).Perm ((log.filter fun p => sub p.2 t).map (·.1))

theorem inv_empty (next inits : Nat) : Inv sub { store := [], next := next, inits := inits } [] :=
  ⟨nofun, .nil, fun _ => .nil⟩

theorem inv_step (s : RState) (log : List (Inst × Cls)) (op : Op) (h : Inv sub s log) :
    Inv sub (step s op) (logStep log s.next op).1 ∧ (step s op).next = (logStep log s.next op).2 := by
  cases op with
  | symbolic c => exact ⟨h, rfl⟩
  | clear => exact ⟨inv_empty sub _ _, rfl⟩
  | concrete c =>
    refine ⟨⟨fun p hp => ?_, ?_, fun t => ?_⟩, rfl⟩
    · rcases List.mem_append.1 hp with hp | hp
      · exact Nat.lt_succ_of_lt (h.fresh p hp)
      · cases List.mem_singleton.1 hp; exact Nat.lt_succ_self _
    · show ((log ++ [(s.next, c)]).map (·.1)).Nodup
      rw [List.map_append, List.nodup_append]
      refine ⟨h.nodup, List.pairwise_singleton _ _, fun a ha b hb e => ?_⟩
      obtain ⟨p, hp, rfl⟩ := List.mem_map.1 ha
      cases List.mem_singleton.1 hb
      exact Nat.lt_irrefl _ (e ▸ h.fresh p hp)
    · show List.Perm _ (((log ++ [(s.next, c)]).filter fun p => sub p.2 t).map (·.1))
      rw [List.filter_append, List.map_append]
      refine ((perm_query_register sub s.store c s.next t).trans (List.Perm.append_left _ (h.query t))).trans ?_
      refine List.perm_append_comm.trans (List.Perm.append_left _ ?_)
      simp only [List.filter_cons, List.filter_nil]
      cases sub c t <;> exact .refl _

theorem inv_run : ∀ (ops : List Op) (s : RState) (log : List (Inst × Cls)), Inv sub s log →
    Inv sub (run s ops) (logRun ops log s.next).1 := by
  intro ops
  induction ops with
  | nil => intro s log h; exact h
  | cons op ops ih =>
    intro s log h
    have hs := inv_step sub s log op h
    have := ih (step s op) _ hs.1
    rwa [hs.2] at this

theorem c14_registry (ops : List Op) (t : Cls) (x : Inst) :
    x ∈ query sub (run {} ops) t ↔ ∃ c, (x, c) ∈ (logRun ops [] 0).1 ∧ sub c t = true := by
  rw [((inv_run sub ops {} [] (inv_empty sub 0 0)).query t).mem_iff, List.mem_map]
  constructor
  · rintro ⟨p, hp, rfl⟩
    exact ⟨p.2, List.mem_filter.1 hp⟩
  · rintro ⟨c, hc⟩
    exact ⟨(x, c), List.mem_filter.2 hc, rfl⟩

theorem c14_each_once (ops : List Op) (t : Cls) : (query sub (run {} ops) t).Nodup :=
  have h := inv_run sub ops {} [] (inv_empty sub 0 0)
  (h.query t).nodup_iff.2 (h.nodup.sublist (List.filter_sublist.map _))

theorem c14_symbolic_inert (s : RState) (c : Cls) : step s (.symbolic c) = s := rfl

theorem c14_inits : ∀ (ops : List Op) (s : RState),
    (run s ops).inits = s.inits + (ops.filter fun op => match op with | .concrete _ => true | _ => false).length := by
  intro ops
  induction ops with
  | nil => intro s; rfl
  | cons op ops ih =>
    intro s
    refine (ih (step s op)).trans ?_
    cases op with
    | concrete c => exact (Nat.add_assoc ..).trans (congrArg _ (Nat.add_comm ..))
    | symbolic _ | clear => rfl

/-- Non-vacuity: a subclass instance, a clear and a symbolic construction in one history. -/
example : query (fun c t => c == t || (c == 1 && t == 0))
    (run {} [.concrete 0, .concrete 1, .symbolic 1, .concrete 2, .clear, .concrete 1, .concrete 0]) 0 = [3, 4] := by
  decide

end Eql.Registry
