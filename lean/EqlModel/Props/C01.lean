/-
  C01 — a single-variable query is an exact, ordered, duplicate-free domain filter.

  The result is compared with the filtered domain as a LIST: order and multiplicity included.
  Scope: every leaf of the condition mentions the variable (a leaf built from literals only is
  covered by the correspondence check, not by this theorem); no flatten.
-/
import EqlModel.Lemmas.Closed
import EqlModel.Lemmas.BuildLemmas
import EqlModel.Props.C03
import EqlModel.SpecExec

namespace Eql
variable {V : Type}
variable (W : World V) (D : VarId → List V)

/-- **C01 (constructed tree).** The result list of a single-variable query equals the domain
    filtered by the meaning of its condition — same objects, same order, same multiplicity. -/
theorem c01_filter [Inhabited V] (x : VarId) (c : Cond V) (hf : c.noFlat = true)
    (hs : Cond.single x c) :
    rows W D ⟨[.var x], some c⟩ =
      ((D x).filter fun o => denote W (constAsg o) c).map fun o => [o] := by
  simp only [rows, cond_dist W D x c hf hs false, List.flatMap_assoc, singleOut, closedOut_flatMap,
    Bool.or_false, evalArgs_var_self, flatMap_ite_singleton]

/-- Every leaf of a surface condition mentions `x` and only `x`. -/
def SCond.single (x : VarId) : SCond V → Prop
  | .cmp _ l r => (∀ v ∈ l.vars ++ r.vars, v = x) ∧ (l.vars ≠ [] ∨ r.vars ≠ [])
  | .in_ i c => (∀ v ∈ i.vars ++ c.vars, v = x) ∧ (i.vars ≠ [] ∨ c.vars ≠ [])
  | .contains c i => (∀ v ∈ c.vars ++ i.vars, v = x) ∧ (c.vars ≠ [] ∨ i.vars ≠ [])
  | .truth t => (∀ v ∈ t.vars, v = x) ∧ t.vars ≠ []
  | .pred _ args => (∀ v ∈ Terms.vars args, v = x) ∧ Terms.vars args ≠ []
  | .and2 l r => SCond.single x l ∧ SCond.single x r
  | .or2 l r => SCond.single x l ∧ SCond.single x r
  | .not c => SCond.single x c
  | .sub sel c => SCond.single x c ∧ (∀ v ∈ Terms.vars sel, v = x)

theorem neg_single (x : VarId) : ∀ (c : Cond V), Cond.single x c → Cond.single x (neg c) := by
  intro c
  induction c with
  | cmp op l r | truth inv t | pred inv n args => exact id
  | and l r ihl ihr | elseIf l r ihl ihr => exact And.imp ihl ihr
  | sub sel c ih => exact And.imp_left ih

theorem single_cmp_swap {x : VarId} {op : CmpOp} {l r : Term V} (h : Cond.single x (.cmp op l r)) :
    Cond.single x (.cmp op r l) :=
  ⟨fun v hv => h.1 v (List.mem_append.2 (List.mem_append.1 hv).symm), h.2.symm⟩

theorem build_single (x : VarId) : ∀ (c : SCond V), SCond.single x c → Cond.single x (build c) := by
  intro c
  induction c with
  | cmp op l r =>
    intro h
    obtain ⟨op', e | e⟩ := buildCmp_shape op l r <;> rw [build, e]
    · exact h
    · exact single_cmp_swap h
  | in_ i c => exact single_cmp_swap
  | contains c i | truth t | pred n args => exact id
  | and2 l r ihl ihr | or2 l r ihl ihr => exact And.imp ihl ihr
  | not c ih => exact fun h => neg_single x _ (ih h)
  | sub sel c ih => exact And.imp_left ih

/-- **C01 (surface syntax).** `list(an(entity(x, cond)).evaluate())` is
    `[o for o in domain if cond(o)]` (`sdenote`: the condition read as ordinary Python), for every
    condition built from the public vocabulary (and_/or_/not_, the six comparisons with a value on
    either side, in_/contains, boolean expressions, predicates) in which each leaf mentions `x`. -/
theorem c01_filter_surface [Inhabited V] (hW : W.Lawful) (x : VarId) (sc : SCond V)
    (hf : sc.noFlat = true) (hs : SCond.single x sc) :
    rows W D ⟨[.var x], some (build sc)⟩ =
      ((D x).filter fun o => sdenote W (constAsg o) sc).map fun o => [o] := by
  rw [c01_filter W D x (build sc) (by rw [build_noFlat]; exact hf) (build_single x sc hs)]
  simp only [build_denote W hW]

theorem c01_each_once [Inhabited V] (x : VarId) (c : Cond V) (hf : c.noFlat = true)
    (hs : Cond.single x c) (hD : (D x).Nodup) : (rows W D ⟨[.var x], some c⟩).Nodup := by
  rw [c01_filter W D x c hf hs]
  exact List.pairwise_map.2 ((List.Nodup.sublist List.filter_sublist hD).imp fun h e => h (List.cons.inj e).1)

theorem mem_dedupFrom [BEq V] [LawfulBEq V] {o : V} {l : List V} : ∀ {seen : List V},
    o ∈ dedupFrom seen l ↔ o ∈ l ∧ o ∉ seen := by
  induction l with
  | nil => simp [dedupFrom]
  | cons a as ih =>
    intro seen
    rw [dedupFrom, List.mem_cons]
    split
    next h =>
      have ha := List.contains_iff_mem.1 h
      rw [ih]
      exact and_congr_left fun hs => (or_iff_right fun e : o = a => hs (e ▸ ha)).symm
    next h =>
      have ha := mt List.contains_iff_mem.2 h
      rw [List.mem_cons, ih, List.mem_cons, not_or]
      by_cases e : o = a
      · subst e
        exact iff_of_true (.inl rfl) ⟨.inl rfl, ha⟩
      · rw [or_iff_right e, or_iff_right e, and_iff_right e]

theorem dedupFrom_nodup [BEq V] [LawfulBEq V] (l : List V) : ∀ seen, (dedupFrom seen l).Nodup := by
  induction l with
  | nil => exact fun _ => List.nodup_nil
  | cons a as ih =>
    intro seen
    rw [dedupFrom]
    split
    · exact ih seen
    · exact List.nodup_cons.2 ⟨fun h => (mem_dedupFrom.1 h).2 List.mem_cons_self, ih _⟩

/-- The domain of `let(T, d)` (`mkDom`): exactly the members of `d` that are instances of `T`
    (subclasses included through `isInst`). -/
theorem c01_domain_instances [BEq V] [LawfulBEq V] (cls : String) (raw : List V) (o : V) :
    o ∈ mkDom W cls raw ↔ (o ∈ raw ∧ W.isInst cls o = true) := by
  simp [mkDom, mem_dedupFrom, List.mem_filter]

theorem c01_domain_nodup [BEq V] [LawfulBEq V] (cls : String) (raw : List V) :
    (mkDom W cls raw).Nodup := dedupFrom_nodup _ _

end Eql
