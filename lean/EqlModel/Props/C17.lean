/-
  C17 — `concatenate` yields a single value: all inner elements, in order.

  `concatenate(t)` where `t` (e.g. `p.items`) is an expression over one variable `p`:
    c17_concat_value      it evaluates to exactly ONE output whose value is the list of all
                          elements of `t` over all objects of the domain, in domain order then
                          inner order, with multiplicity (a non-iterable counts as one element)
    c17_concat_rows       an(entity(concatenate(t))) yields that single row
    c17_member            entity(o, in_(o, concatenate(t))) selects exactly the domain objects of
                          `o` that are in the combined list, in domain order
    c17_not_member        the negated test selects exactly the others (the complement)
    c17_concat_value_frame   the single value is the same under EVERY outer binding that leaves the operand's
                          variable unbound (the aggregation is not correlated with anything outside it)
    c17_concat_value_bound   once bound, the node answers with its binding (no second aggregation)
    c17_concat_after_var / c17_concat_before_var   selected next to another variable, in either order: one
                          row per object of that variable, every row carrying the same combined list
-/
import EqlModel.Lemmas.Closed
import EqlModel.Build

namespace Eql
variable {V : Type}
variable (W : World V) (D : VarId → List V)

def combined (p : VarId) (t : Term V) : V :=
  W.mkList ((D p).flatMap fun o => W.items (termVal W (constAsg o) t))

structure ConcatWF (p g : VarId) (t : Term V) : Prop where
  noFlat : t.noFlat = true
  vars : ∀ v ∈ t.vars, v = p
  nonempty : t.vars ≠ []

theorem c17_concat_value_frame [Inhabited V] (p g : VarId) (t : Term V) (h : ConcatWF p g t)
    (β : Bnd V) (hp : β.lookup p = none) (hg : β.lookup g = none) :
    evalTerm W D (.concat g t) β = [((g, combined W D p t) :: β, combined W D p t)] := by
  simp only [evalTerm, hg, term_dist_frame W D p β hp t h.noFlat h.vars h.nonempty, List.flatMap_map,
    combined]

theorem c17_concat_value [Inhabited V] (p g : VarId) (t : Term V) (h : ConcatWF p g t) :
    evalTerm W D (.concat g t) [] = [([(g, combined W D p t)], combined W D p t)] :=
  c17_concat_value_frame W D p g t h [] rfl rfl

theorem c17_concat_rows [Inhabited V] (p g : VarId) (t : Term V) (h : ConcatWF p g t) :
    rows W D ⟨[.concat g t], none⟩ = [[combined W D p t]] := by
  simp only [rows, List.flatMap_cons, List.flatMap_nil, List.append_nil, evalArgs,
    c17_concat_value W D p g t h, List.map_cons, List.map_nil]

/-- Membership of an outer variable `o` against the combined list, with operator `op`
    (`contains` for `in_`, `not_contains` after `not_`). -/
theorem c17_member_op [Inhabited V] (p g x : VarId) (t : Term V) (h : ConcatWF p g t) (hx : x ≠ g)
    (op : CmpOp) :
    rows W D ⟨[.var x], some (.cmp op (.concat g t) (.var x))⟩ =
      ((D x).filter fun o => W.cmp op (combined W D p t) o).map fun o => [o] := by
  simp only [rows, evalCond, rightFirst_nil, Bool.false_eq_true, if_false, c17_concat_value W D p g t h,
    List.flatMap_cons, List.flatMap_nil, List.append_nil,
    evalTerm_var_unbound W D ((lookup_cons_ne [] _ hx).trans rfl), List.flatMap_map, Bool.or_false,
    List.flatMap_assoc]
  rw [← flatMap_ite_singleton]
  exact flatMap_congr_mem fun o _ => by cases W.cmp op (combined W D p t) o <;> simp [evalArgs_var_self]

theorem c17_member [Inhabited V] (p g x : VarId) (t : Term V) (h : ConcatWF p g t) (hx : x ≠ g) :
    rows W D ⟨[.var x], some (build (.in_ (.var x) (.concat g t)))⟩ =
      ((D x).filter fun o => W.cmp .contains (combined W D p t) o).map fun o => [o] := by
  simp only [build, buildIn, Gen.inCmp, if_true]
  exact c17_member_op W D p g x t h hx .contains

theorem c17_not_member [Inhabited V] (hW : W.Lawful) (p g x : VarId) (t : Term V) (h : ConcatWF p g t)
    (hx : x ≠ g) :
    rows W D ⟨[.var x], some (build (.not (.in_ (.var x) (.concat g t))))⟩ =
      ((D x).filter fun o => !W.cmp .contains (combined W D p t) o).map fun o => [o] := by
  simp only [build, buildIn, Gen.inCmp, if_true, neg, Gen.invOp]
  rw [c17_member_op W D p g x t h hx .notContains]
  simp only [hW.nc_c]

theorem c17_concat_value_bound [Inhabited V] (g : VarId) (t : Term V) (β : Bnd V) (a : V)
    (hg : β.lookup g = some a) :
    evalTerm W D (.concat g t) β = [(β, a)] := by
  simp only [evalTerm, hg]

theorem c17_concat_after_var [Inhabited V] (p g x : VarId) (t : Term V) (h : ConcatWF p g t)
    (hxp : x ≠ p) (hxg : x ≠ g) :
    rows W D ⟨[.var x, .concat g t], none⟩ = (D x).map fun o => [o, combined W D p t] := by
  have hc : ∀ o : V, evalTerm W D (.concat g t) [(x, o)] =
      [((g, combined W D p t) :: [(x, o)], combined W D p t)] := fun o =>
    c17_concat_value_frame W D p g t h [(x, o)] ((lookup_cons_ne [] o hxp.symm).trans rfl)
      ((lookup_cons_ne [] o hxg.symm).trans rfl)
  simp only [rows, List.flatMap_cons, List.flatMap_nil, List.append_nil, evalArgs_two,
    evalTerm_var_unbound W D (β := []) rfl, List.flatMap_map, hc, List.map_cons, List.map_nil, ← List.map_eq_flatMap,
    List.map_map]
  rfl

theorem c17_concat_before_var [Inhabited V] (p g x : VarId) (t : Term V) (h : ConcatWF p g t)
    (hxg : x ≠ g) :
    rows W D ⟨[.concat g t, .var x], none⟩ = (D x).map fun o => [combined W D p t, o] := by
  simp only [rows, List.flatMap_cons, List.flatMap_nil, List.append_nil, evalArgs_two,
    c17_concat_value W D p g t h, evalTerm_var_unbound W D ((lookup_cons_ne [] _ hxg).trans rfl), List.map_map]
  rfl

end Eql
