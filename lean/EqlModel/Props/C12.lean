/-
  C12 — a rule tree selects, per match, the conclusion ripple-down rules prescribe.

  Model: `EqlModel/Rules.lean`.  Under a binding of all variables a rule tree yields one output (none if it is
  false and false outputs are not asked for): the tree's truth (`RTree.holds`) and the conclusion `RTree.concl`
  selects — ExceptIf: the refinement's conclusion where the refinement fires, else the refined one;
  Alternative: the left conclusion where the left fires, else the right one where the right fires, else
  nothing (`rt_closed`).
  The rows theorem here is for a rule over one variable (any number: Props/C12Rows.lean).  `expected`, the
  tree the ripple-down reading of a surface program prescribes, and `c12_build_expected` (the transliterated
  construction produces it) are in Lemmas/RuleBuild.lean.
-/
import EqlModel.Rules
import EqlModel.Lemmas.Closed
import EqlModel.Lemmas.RuleBuild

namespace Eql
variable {V : Type}
variable (W : World V) (D : VarId → List V)

def RTree.vars : RTree V → List VarId
  | .leaf _ c _ => c.vars
  | .exceptIf l r => l.vars ++ r.vars
  | .alternative l r => l.vars ++ r.vars

def RTree.noFlat : RTree V → Bool
  | .leaf _ c _ => c.noFlat
  | .exceptIf l r => l.noFlat && r.noFlat
  | .alternative l r => l.noFlat && r.noFlat

/-- The one output of a closed rule tree. -/
def closedOutR (β : Bnd V) (h : Bool) (k : Option Nat) (ywf : Bool) : List (Bnd V × Bool × Option Nat) :=
  if h || ywf then [(β, !h, if h then k else none)] else []

theorem holds_eq_isSome (α : Asg V) : ∀ (t : RTree V), t.holds W α = (t.concl W α).isSome := by
  intro t
  induction t with
  | leaf i c tag => simp only [RTree.holds, RTree.concl]; cases denote W α c <;> rfl
  | exceptIf l r ihl ihr =>
    simp only [RTree.holds, RTree.concl]
    cases hl : l.holds W α
    · rfl
    · cases hr : r.holds W α
      · exact hl.symm.trans ihl
      · exact hr.symm.trans ihr
  | alternative l r ihl ihr =>
    simp only [RTree.holds, RTree.concl]
    cases hl : l.holds W α
    · exact ihr
    · exact hl.symm.trans ihl

theorem concl_none_of_not_holds (α : Asg V) : ∀ (t : RTree V), t.holds W α = false → t.concl W α = none := by
  intro t h
  cases hc : t.concl W α with
  | none => rfl
  | some k => rw [holds_eq_isSome, hc] at h; cases h

theorem rt_closed : ∀ (t : RTree V), t.noFlat = true → ∀ (β : Bnd V) (α : Asg V) (ywf : Bool),
    Ext β α → (∀ v ∈ t.vars, bound β v = true) →
    evalR W D t β ywf = closedOutR β (t.holds W α) (t.concl W α) ywf := by
  intro t
  induction t with
  | leaf i c tag =>
    intro hf β α ywf hα hb
    simp only [evalR, cond_closed W D c hf β α ywf hα hb, RTree.holds, RTree.concl]
    cases denote W α c <;> cases ywf <;> rfl
  | exceptIf l r ihl ihr =>
    intro hf β α ywf hα hb
    simp only [RTree.noFlat, Bool.and_eq_true] at hf
    have hr := ihr hf.2 β α false hα (fun v h => hb v (List.mem_append_right _ h))
    simp only [evalR, ihl hf.1 β α ywf hα (fun v h => hb v (List.mem_append_left _ h)), RTree.holds, RTree.concl]
    cases l.holds W α
    · cases ywf <;> rfl
    · simp only [closedOutR, Bool.true_or, if_true, List.flatMap_cons, List.flatMap_nil, List.append_nil,
        Bool.not_true, Bool.false_eq_true, if_false, hr]
      cases r.holds W α <;> rfl
  | alternative l r ihl ihr =>
    intro hf β α ywf hα hb
    simp only [RTree.noFlat, Bool.and_eq_true] at hf
    have hr := ihr hf.2 β α ywf hα (fun v h => hb v (List.mem_append_right _ h))
    simp only [evalR, ihl hf.1 β α true hα (fun v h => hb v (List.mem_append_left _ h)), RTree.holds, RTree.concl]
    cases l.holds W α
    · simp only [closedOutR, Bool.false_or, if_true, List.isEmpty_cons, Bool.false_eq_true, if_false,
        List.flatMap_cons, List.flatMap_nil, List.append_nil, Bool.not_false, hr]
    · cases ywf <;> rfl

def RTree.single (x : VarId) : RTree V → Prop
  | .leaf _ c _ => Cond.single x c
  | .exceptIf l r => RTree.single x l ∧ RTree.single x r
  | .alternative l r => RTree.single x l ∧ RTree.single x r

theorem rtree_single_vars (x : VarId) : ∀ (t : RTree V), RTree.single x t → ∀ v ∈ t.vars, v = x := by
  intro t
  induction t with
  | leaf i c tag => exact single_vars x c
  | exceptIf l r ihl ihr | alternative l r ihl ihr =>
    intro h v hv; exact (List.mem_append.1 hv).elim (ihl h.1 v) (ihr h.2 v)

/-- What the tree yields for the object `o`. -/
def singleOutR (t : RTree V) (x : VarId) (ywf : Bool) (o : V) : List (Bnd V × Bool × Option Nat) :=
  closedOutR [(x, o)] (t.holds W (constAsg o)) (t.concl W (constAsg o)) ywf

theorem rt_at (x : VarId) (t : RTree V) (hf : t.noFlat = true) (hs : RTree.single x t) (ywf : Bool) (o : V) :
    evalR W D t [(x, o)] ywf = singleOutR W t x ywf o :=
  rt_closed W D t hf [(x, o)] (constAsg o) ywf (ext_cons rfl (ext_nil _))
    (fun v hv => by rw [rtree_single_vars x t hs v hv]; exact bound_cons.2 (.inl rfl))

theorem rt_dist [Inhabited V] (x : VarId) : ∀ (t : RTree V), t.noFlat = true → RTree.single x t →
    ∀ (ywf : Bool), evalR W D t [] ywf = (D x).flatMap (singleOutR W t x ywf) := by
  intro t hf hs ywf
  -- binding `x` first changes nothing; then every object is a closed evaluation (`rt_at`)
  suffices h : evalR W D t [] ywf = (D x).flatMap fun o => evalR W D t [(x, o)] ywf by
    rw [h]; exact flatMap_congr_mem fun o _ => rt_at W D x t hf hs ywf o
  induction t generalizing ywf with
  | leaf i c tag =>
    simp only [evalR, cond_dist W D x c hf hs ywf, List.map_flatMap, cond_at W D x c hf hs]
  | exceptIf l r ihl _ =>
    simp only [RTree.noFlat, Bool.and_eq_true] at hf
    simp only [evalR]
    rw [ihl hf.1 hs.1 ywf, List.flatMap_assoc]
  | alternative l r ihl ihr =>
    simp only [RTree.noFlat, Bool.and_eq_true] at hf
    -- asked for false outputs too, the left branch yields one output per object
    have hne : ∀ o, (evalR W D l [(x, o)] true).isEmpty = false :=
      fun o => by rw [rt_at W D x l hf.1 hs.1 true o, singleOutR, closedOutR, Bool.or_true]; rfl
    simp only [evalR, hne, Bool.false_eq_true, if_false]
    rw [ihl hf.1 hs.1 true, isEmpty_flatMap_of_nonempty _ _ hne]
    cases hD : D x with
    | nil => rw [ihr hf.2 hs.2 ywf, hD]; rfl
    | cons o os => rw [List.flatMap_assoc]; rfl

/-- **C12 (rows).** One instance per object on which the tree fires, in domain order, carrying
    exactly the conclusion the selectors prescribe; nothing for the other objects. -/
theorem c12_rule_tree_rows [Inhabited V] (x : VarId) (t : RTree V) (hf : t.noFlat = true)
    (hs : RTree.single x t) :
    ruleRows W D t [.var x] =
      (D x).filterMap fun o => (t.concl W (constAsg o)).map fun tag => (tag, [o]) := by
  rw [ruleRows, rt_dist W D x t hf hs false, List.flatMap_assoc, filterMap_eq_flatMap]
  refine flatMap_congr_mem fun o _ => ?_
  rw [singleOutR, holds_eq_isSome]
  cases t.concl W (constAsg o) with
  | none => rfl
  | some tag =>
    simp only [closedOutR, Option.isSome_some, Bool.true_or, if_true, List.flatMap_singleton, Bool.not_true,
      Bool.false_eq_true, if_false, evalArgs_one, evalTerm, lookup_self]
    rfl

theorem concl_alternative (α : Asg V) (l r : RTree V) :
    (RTree.alternative l r).concl W α = (l.concl W α).or (r.concl W α) := by
  rw [RTree.concl, holds_eq_isSome, Option.or_eq_bif]; cases (l.concl W α).isSome <;> rfl

theorem concl_exceptIf (α : Asg V) (l r : RTree V) :
    (RTree.exceptIf l r).concl W α = (l.concl W α).map fun k => (r.concl W α).getD k := by
  rw [RTree.concl, holds_eq_isSome W α l, holds_eq_isSome W α r]
  cases l.concl W α <;> cases r.concl W α <;> rfl

theorem wrapRefs_concl (α : Asg V) (core : RTree V) : ∀ (refs : List (RTree V)),
    (wrapRefs core refs).concl W α = (core.concl W α).map fun k => (refs.findSome? (·.concl W α)).getD k
  | [] => Option.map_id'.symm
  | r :: rs => by
    rw [wrapRefs, concl_exceptIf, wrapRefs_concl α core rs, Option.map_map, List.findSome?_cons]
    cases r.concl W α <;> rfl

theorem foldl_alt_concl (α : Asg V) : ∀ (alts : List (RTree V)) (core : RTree V),
    (alts.foldl RTree.alternative core).concl W α = (core.concl W α).or (alts.findSome? (·.concl W α))
  | [], core => by rw [List.findSome?_nil, Option.or_none]; rfl
  | a :: as, core => by
    rw [List.foldl_cons, foldl_alt_concl α as, concl_alternative, Option.or_assoc, List.findSome?_cons]
    cases a.concl W α <;> rfl

theorem assemble_concl (α : Asg V) (id : Nat) (c : Cond V) (tag : Nat) (inner : SRule V)
    (refs alts : List (RTree V)) (hr : refs.findSome? (·.concl W α) = fireKids W α .ref inner)
    (ha : alts.findSome? (·.concl W α) = fireKids W α .alt inner) :
    (assemble (.leaf id c tag) refs alts).concl W α = fireNode W α c tag inner := by
  rw [assemble, foldl_alt_concl, wrapRefs_concl, hr, ha, fireNode, RTree.concl]
  cases denote W α c <;> rfl

theorem expKids_fire (α : Asg V) : ∀ (kids : SRule V) (next : Nat),
    (expKids kids next).1.findSome? (·.concl W α) = fireKids W α .ref kids ∧
    (expKids kids next).2.1.findSome? (·.concl W α) = fireKids W α .alt kids := by
  intro kids
  induction kids with
  | nil => intro next; exact ⟨rfl, rfl⟩
  | cons kind c tag inner rest ihi ihr =>
    intro next
    have hsub := assemble_concl W α next c tag inner _ _ (ihi (next + 1)).1 (ihi (next + 1)).2
    have hrst := ihr (expKids inner (next + 1)).2.2
    rw [fireKids_cons, fireKids_cons]
    cases kind <;> simp only [expKids, List.findSome?_cons, hsub, hrst.1, hrst.2]
    · exact ⟨by cases fireNode W α c tag inner <;> rfl, rfl⟩
    · exact ⟨rfl, by cases fireNode W α c tag inner <;> rfl⟩

/-- **C12 (ripple-down).** The conclusion the assembled rule tree selects for an assignment is the
    one ripple-down rules prescribe for the surface program: the most specific applicable
    refinement in place of the conclusion it refines, an alternative only where the branches before
    it did not fire — for refinements and alternatives nested to any depth under any branch. -/
theorem c12_expected_fire (α : Asg V) (c0 : Cond V) (tag0 : Nat) (kids : SRule V) :
    (expected c0 tag0 kids).concl W α = fireRule W α c0 tag0 kids :=
  assemble_concl W α 0 c0 tag0 kids _ _ (expKids_fire W α kids 1).1 (expKids_fire W α kids 1).2

/-- Hence the tree that `buildRule`, the transliteration of the library's construction, builds selects the
    ripple-down conclusion. -/
theorem c12_build_fire (W : World V) (α : Asg V) (c0 : Cond V) (tag0 : Nat) (kids : SRule V) :
    (buildRule c0 tag0 kids).concl W α = fireRule W α c0 tag0 kids := by
  rw [c12_build_expected, c12_expected_fire]

/-- Shape of a rule tree: leaf identities and operators (conditions dropped). -/
inductive RShape where
  | leaf (id tag : Nat)
  | exceptIf (l r : RShape)
  | alternative (l r : RShape)
  deriving DecidableEq, Repr

def RTree.shape : RTree V → RShape
  | .leaf i _ tag => .leaf i tag
  | .exceptIf l r => .exceptIf l.shape r.shape
  | .alternative l r => .alternative l.shape r.shape

/-- All ordered forests with exactly `n` blocks, every block a refinement or an alternative
    (fuel-bounded enumeration; the conditions are irrelevant to the construction). -/
def allForests (c : Cond V) : Nat → Nat → List (SRule V)
  | _, 0 => [.nil]
  | 0, _ + 1 => []
  | fuel + 1, n + 1 =>
      (List.range (n + 1)).flatMap fun k =>
        (allForests c fuel k).flatMap fun inner =>
          (allForests c fuel (n - k)).flatMap fun rest =>
            [.cons .ref c 0 inner rest, .cons .alt c 0 inner rest]

/-- The instance of `c12_build_expected` on every program of up to 4 blocks (275 programs), shapes
    compared with leaf identities included. -/
theorem c12_build_expected_small :
    ∀ n ∈ [0, 1, 2, 3, 4], ∀ kids ∈ allForests (Cond.truth false (.lit 0) : Cond Nat) 5 n,
      (buildRule (.truth false (.lit 0)) 0 kids).shape = (expected (.truth false (.lit 0)) 0 kids).shape :=
  fun _ _ kids _ => congrArg RTree.shape (c12_build_expected _ 0 kids)

end Eql
