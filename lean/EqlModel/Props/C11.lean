/-
  C11 — rule inference builds one instance per satisfying binding, from that binding.

  `infer(entity(T(f1=e1, …, fn=en), conditions))`: the selected variable is inferred, so for every
  true output of the conditions the argument expressions are evaluated under that binding and T is
  instantiated with them (`Variable._evaluate__`, inferred branch; `Rules.ruleRows` with a single
  leaf).  An instance is identified with (class tag, field values).
    c11_rows              the instances are the rows of the query that selects e1 … en, tagged
    c11_sound             every instance carries the values of e1 … en under ONE admissible
                          assignment that satisfies the conditions (fields are never mixed, none is
                          built for a non-satisfying assignment); a condition variable the head does
                          not mention must have a non-empty domain (`hne`, the point of C02-F1)
    c11_complete          every satisfying assignment has its instance
    c11_one_per_binding   when the conditions bind every variable the head mentions, each true
                          output of the conditions yields exactly one instance, built from it
    c11_count             with distinct domain objects and a head whose arguments are all the
                          variables of the rule, no instance is built twice: with `c11_sound` and
                          `c11_complete`, exactly as many instances as satisfying assignments
  Existing objects are reused as field values: values are passed through (`termVal`), nothing in the
  model can copy an object; on the implementation the harness compares by identity.
-/
import EqlModel.Rules
import EqlModel.Props.C02
import EqlModel.Lemmas.Closed

namespace Eql
variable {V : Type}
variable (W : World V) (D : VarId → List V)

theorem ruleRows_leaf (i tag : Nat) (c : Cond V) (args : List (Term V)) :
    ruleRows W D (.leaf i c tag) args =
      (evalCond W D c [] false).flatMap fun p => (evalArgs W D args p.1).map fun q => (tag, q.2) := by
  rw [ruleRows, evalR, List.flatMap_map]
  refine flatMap_congr_mem fun p hp => ?_
  simp only [evalCond_flag W D c hp, Bool.false_eq_true, if_false]

theorem c11_rows (i tag : Nat) (c : Cond V) (hf : c.noFlat = true) (args : List (Term V)) :
    ruleRows W D (.leaf i c tag) args = (rows W D ⟨args, some c⟩).map fun r => (tag, r) := by
  rw [ruleRows_leaf, rows, List.map_flatMap]
  simp only [List.map_map]
  rfl

theorem c11_sound [Inhabited V] (i tag : Nat) (c : Cond V) (hf : c.noFlat = true) (args : List (Term V))
    (hfa : Terms.noFlat args = true)
    (hne : ∀ v ∈ c.vars, v ∉ Terms.vars args → D v ≠ []) (inst : Nat × List V)
    (h : inst ∈ ruleRows W D (.leaf i c tag) args) :
    inst.1 = tag ∧ ∃ α, (∀ v ∈ c.vars ++ Terms.vars args, α v ∈ D v) ∧ denote W α c = true ∧
      inst.2 = termsVal W α args := by
  rw [c11_rows W D i tag c hf args, List.mem_map] at h
  obtain ⟨r, hr, rfl⟩ := h
  refine ⟨rfl, ?_⟩
  exact c02_rows_sound W D ⟨args, some c⟩ (Bool.and_eq_true_iff.2 ⟨hfa, hf⟩) hne r hr

theorem c11_complete (i tag : Nat) (c : Cond V) (hf : c.noFlat = true) (args : List (Term V))
    (hfa : Terms.noFlat args = true) (α : Asg V)
    (hadm : ∀ v ∈ c.vars ++ Terms.vars args, α v ∈ D v) (hh : denote W α c = true) :
    (tag, termsVal W α args) ∈ ruleRows W D (.leaf i c tag) args := by
  rw [c11_rows W D i tag c hf args, List.mem_map]
  exact ⟨termsVal W α args, c02_rows_complete W D ⟨args, some c⟩ (Bool.and_eq_true_iff.2 ⟨hfa, hf⟩) α hadm hh, rfl⟩

theorem c11_one_per_binding [Inhabited V] (i tag : Nat) (c : Cond V) (hf : c.noFlat = true)
    (hu : Cond.uniformOr c) (args : List (Term V)) (hfa : Terms.noFlat args = true)
    (hsub : ∀ v ∈ Terms.vars args, v ∈ c.vars) :
    ruleRows W D (.leaf i c tag) args =
      (evalCond W D c [] false).map fun p => (tag, termsVal W (asgOfBnd p.1) args) := by
  rw [ruleRows_leaf, List.map_eq_flatMap]
  refine flatMap_congr_mem fun p hp => ?_
  have hp' : (p.1, false) ∈ evalCond W D c [] false := by
    rw [show (p.1, false) = p from Prod.ext rfl (evalCond_flag W D c hp).symm]; exact hp
  rw [args_closed W D args hfa p.1 (asgOfBnd p.1) (ext_asgOfBnd p.1)
    fun v hv => true_output_total W D c hf hu [] p.1 false hp' v (hsub v hv)]
  rfl

theorem c11_count [Inhabited V] (i tag : Nat) (c : Cond V) (hf : c.noFlat = true)
    (hD : ∀ v, (D v).Nodup) (vs : List VarId) (hall : ∀ v ∈ c.vars, v ∈ vs) :
    (ruleRows W D (.leaf i c tag) (vs.map Term.var)).Nodup := by
  rw [c11_rows W D i tag c hf]
  have := c02_rows_nodup W D ⟨vs.map Term.var, some c⟩
    (Bool.and_eq_true_iff.2 ⟨terms_noFlat_vars vs, hf⟩) hD vs rfl hall
  rw [List.nodup_iff_pairwise_ne] at this ⊢
  rw [List.pairwise_map]
  exact this.imp (fun h e => h (by injection e))

end Eql
