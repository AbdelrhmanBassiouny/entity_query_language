/-
  C08 — symbolic mode is confined to its block.

  Model: `EqlModel/Mode.lean`.  Histories are arbitrary finite interleavings of entering/leaving
  symbolic_mode / rule_mode blocks (with or without a query) and `with query:` blocks — leaving by
  normal exit or by an exception is the same `finally` — and of creating, advancing, exhausting,
  closing or finalising result iterators at ANY point, inside or outside any block.
-/
import EqlModel.Mode
import EqlModel.Gen.Tables

namespace Eql.Mode

/-- Saved modes are the modes that were active at entry. -/
def FramesOk : List Frame → Prop
  | [] => True
  | .block prev _ _ :: fs => prev = innermost fs ∧ FramesOk fs
  | .withQuery :: fs => FramesOk fs

structure Inv (s : MState) : Prop where
  mode : s.mode = innermost s.frames
  stack : s.stack = pushes s.frames
  frames : FramesOk s.frames

theorem inv_init : Inv {} := ⟨rfl, rfl, trivial⟩

theorem inv_step (s : MState) (op : Op) (h : Inv s) : Inv (step s op) := by
  obtain ⟨hm, hs, hfr⟩ := h
  cases op with
  | enterSym m wq =>
    refine ⟨rfl, ?_, ⟨hm, hfr⟩⟩
    show (if wq = true then s.stack + 1 else s.stack) = (if wq = true then 1 else 0) + pushes s.frames
    cases wq
    · exact hs.trans (Nat.zero_add _).symm
    · exact (congrArg (· + 1) hs).trans (Nat.add_comm ..)
  | enterWith => exact ⟨hm, (congrArg (· + 1) hs).trans (Nat.add_comm ..), hfr⟩
  | leave =>
    rw [step]
    split
    · exact ⟨hm, hs, hfr⟩
    · next prev m pushed fs hf =>
      rw [hf] at hs hfr
      refine ⟨hfr.1, ?_, hfr.2⟩
      show (if pushed = true then s.stack - 1 else s.stack) = pushes fs
      rw [hs, pushes]
      cases pushed
      · exact Nat.zero_add _
      · exact Nat.add_sub_cancel_left ..
    · next fs hf =>
      rw [hf] at hm hs hfr
      exact ⟨hm, by rw [hs]; exact Nat.add_sub_cancel_left .., hfr⟩
  | iterCreate _ | iterAdvance _ _ | iterClose _ => exact ⟨hm, hs, hfr⟩

theorem inv_run (ops : List Op) (s : MState) (h : Inv s) : Inv (run s ops) :=
  List.foldlRecOn ops step h fun s h op _ => inv_step s op h

/-- **C08.** After every history the mode is the innermost enclosing block's mode and the
    expression stack holds exactly the queries the open blocks pushed. -/
theorem c08_confined (ops : List Op) :
    (run {} ops).mode = innermost (run {} ops).frames ∧
    (run {} ops).stack = pushes (run {} ops).frames :=
  ⟨(inv_run ops {} inv_init).mode, (inv_run ops {} inv_init).stack⟩

/-- Outside every block: ordinary Python. -/
theorem c08_outside_blocks (ops : List Op) (h : (run {} ops).frames = []) :
    observe (run {} ops) =
      { inSymbolic := false, inRule := false, constructsConcrete := true, operatorsRejected := true,
        stackLen := 0 } := by
  have hc := c08_confined ops
  rw [h] at hc
  rw [observe, hc.1, hc.2]
  rfl

/-- Inside a symbolic/rule block (directly, or inside `with query:` blocks nested in it):
    construction is symbolic and operators build expressions. -/
theorem c08_inside_block (ops : List Op) (m : EMode) (h : innermost (run {} ops).frames = some m) :
    (observe (run {} ops)).inSymbolic = true ∧ (observe (run {} ops)).constructsConcrete = false ∧
    (observe (run {} ops)).operatorsRejected = false ∧
    (observe (run {} ops)).inRule = (m == .rule) := by
  rw [observe, (c08_confined ops).1, h]
  exact ⟨rfl, rfl, rfl, rfl⟩

def Op.isIter : Op → Bool
  | .iterCreate _ | .iterAdvance _ _ | .iterClose _ => true
  | _ => false

/-- Creating, advancing, exhausting, closing or finalising a result iterator never changes what a
    user can observe nor the open blocks — wherever in the history it happens (what fix 3bc15c5
    established; the position of a close/finalisation step is universally quantified, which covers
    every finalisation time within one thread). -/
theorem c08_iter_ops_invisible (s : MState) (op : Op) (h : op.isIter = true) :
    observe (step s op) = observe s ∧ (step s op).frames = s.frames := by
  cases op with
  | iterCreate _ | iterAdvance _ _ | iterClose _ => exact ⟨rfl, rfl⟩
  | enterSym _ _ | enterWith | leave => cases h

/-- While an iterator computes its next result user code runs concretely, whatever the ambient mode. -/
theorem c08_during_advance (ambient : Option EMode) : duringAdvance ambient = none := rfl

/-- Depth bookkeeping of a body of operations relative to its start. -/
def bal : Nat → List Op → Option Nat
  | d, [] => some d
  | d, .enterSym _ _ :: ops => bal (d + 1) ops
  | d, .enterWith :: ops => bal (d + 1) ops
  | 0, .leave :: _ => none
  | d + 1, .leave :: ops => bal d ops
  | d, .iterCreate _ :: ops => bal d ops
  | d, .iterAdvance _ _ :: ops => bal d ops
  | d, .iterClose _ :: ops => bal d ops

theorem frames_preserved (ops : List Op) (d d' : Nat) (s : MState) (cur base : List Frame)
    (hf : s.frames = cur ++ base) (hl : cur.length = d) (hb : bal d ops = some d') :
    ∃ cur', (run s ops).frames = cur' ++ base ∧ cur'.length = d' := by
  induction ops generalizing d s cur with
  | nil => cases hb; exact ⟨cur, hf, hl⟩
  | cons op ops ih =>
    cases op with
    | enterSym m wq =>
      exact ih (d + 1) (step s (.enterSym m wq)) (.block s.mode m wq :: cur) (congrArg (_ :: ·) hf)
        (congrArg (· + 1) hl) hb
    | enterWith =>
      exact ih (d + 1) (step s .enterWith) (.withQuery :: cur) (congrArg (_ :: ·) hf) (congrArg (· + 1) hl) hb
    | leave =>
      cases cur with
      | nil => cases hl; cases hb
      | cons f cur =>
        cases hl
        refine ih _ (step s .leave) cur ?_ rfl hb
        rw [step, hf]
        cases f <;> rfl
    | iterCreate _ | iterAdvance _ _ | iterClose _ => exact ih d _ cur hf hl hb

/-- **Leaving a block restores what was active before it**, after any body that is balanced
    (nested blocks, exceptions, iterator operations): mode, expression stack and open blocks. -/
theorem c08_leave_restores (s : MState) (h : Inv s) (enter : Op)
    (henter : enter = .enterWith ∨ ∃ m wq, enter = .enterSym m wq)
    (body : List Op) (hb : bal 0 body = some 0) :
    let s' := run s (enter :: body ++ [.leave])
    s'.mode = s.mode ∧ s'.stack = s.stack ∧ s'.frames = s.frames := by
  intro s'
  -- the body runs above the frame `f` that `enter` opened, and `leave` then pops `f`
  have hs' : s' = step (run (step s enter) body) .leave := by
    show List.foldl step s (enter :: body ++ [.leave]) = _
    rw [List.foldl_append, List.foldl_cons]; rfl
  obtain ⟨f, hf⟩ : ∃ f, (step s enter).frames = [] ++ f :: s.frames := by
    rcases henter with rfl | ⟨m, wq, rfl⟩ <;> exact ⟨_, rfl⟩
  obtain ⟨cur', hfr, hlen⟩ := frames_preserved body 0 0 (step s enter) [] (f :: s.frames) hf rfl hb
  cases List.length_eq_zero_iff.1 hlen
  have hfr' : s'.frames = s.frames := by
    rw [hs', step, hfr]
    cases f <;> rfl
  have hinv : Inv s' := inv_run _ s h
  exact ⟨by rw [hinv.mode, h.mode, hfr'], by rw [hinv.stack, h.stack, hfr'], hfr'⟩

/-- Non-vacuity: a history with nested blocks, an exception-style leave and iterator operations
    in odd places satisfies the hypotheses and ends outside every block. -/
example : (run {} [.enterSym .query false, .iterCreate 0, .iterAdvance 0 false, .enterSym .rule true,
    .iterAdvance 0 false, .leave, .leave, .iterClose 0]).frames = [] := by decide

/-! ### Tie to the source (regenerated on every run, `Gen/Tables.lean`) -/

/-- Every symbolic operator defined on `CanBehaveLikeAVariable` BEGINS with the symbolic-mode guard, and the guard raises
    `AttributeError` outside symbolic mode: "rejected iff the mode is off" is what `Mode.observe` reports. -/
theorem c08_operators_guarded :
    (Gen.varOperators.all fun p => p.2) = true ∧ Gen.guardHelperRaises = true ∧ Gen.varOperators.length ≥ 10 := by decide

/-- The transliterated `duringAdvance` / `afterAdvance`: the result stream is advanced inside the mode guard, results
    are yielded OUTSIDE it, and the guard puts the previous mode back in a `finally`. -/
theorem c08_advance_guard_tied :
    (Gen.anAdvancesWithModeOff && Gen.anYieldsOutsideTheGuard && Gen.modeRestoredInFinally) = true := by decide

end Eql.Mode
