/-
  C06 — `the` returns the unique solution or raises, consistently with `an`.

    c06_outcome        `the` classifies the rows `an` would yield: none / exactly one / more
    c06_none_iff       NoSolutionFound  ⇔ no admissible assignment satisfies the description
    c06_ok             a returned value is the projection of a satisfying assignment, and of
                       every satisfying assignment (it is THE solution; it is the row `an` yields)
    c06_multi_iff      with every variable selected: MultipleSolutionFound ⇔ two satisfying
                       assignments with different projections exist
  Re-evaluation: `runThe` is a function of the query and the data only; that the implementation's
  state does not leak between evaluations is C04's invariant.
-/
import EqlModel.Props.C02

namespace Eql
variable {V : Type}
variable (W : World V) (D : VarId → List V)

theorem c06_outcome (q : Query V) :
    runThe W D q = match rows W D q with
      | [] => .noSolution
      | [r] => .ok r
      | _ :: _ :: _ => .multipleSolutions := rfl

/-- The three outcomes are exhaustive and mutually exclusive, and each is decided by the number of
    rows `an` yields. -/
theorem c06_trichotomy (q : Query V) :
    (runThe W D q = .noSolution ∧ (rows W D q).length = 0) ∨
    (∃ r, runThe W D q = .ok r ∧ rows W D q = [r]) ∨
    (runThe W D q = .multipleSolutions ∧ 2 ≤ (rows W D q).length) := by
  unfold runThe
  split
  next h => exact .inl ⟨rfl, congrArg _ h⟩
  next r h => exact .inr (.inl ⟨r, rfl, h⟩)
  next a b bs h => exact .inr (.inr ⟨rfl, h ▸ Nat.le_add_left 2 bs.length⟩)

/-- The value `the` returns is the single row `an` yields. -/
theorem c06_consistent_with_an (q : Query V) (r : List V) :
    runThe W D q = .ok r ↔ rows W D q = [r] := by
  unfold runThe
  split <;> simp [*]

private theorem c06_none_rows (q : Query V) : runThe W D q = .noSolution ↔ rows W D q = [] := by
  unfold runThe
  split <;> simp [*]

theorem c06_none_iff [Inhabited V] (q : Query V) (hf : q.noFlat = true)
    (hne : ∀ v ∈ q.condVars, v ∉ Terms.vars q.sel → D v ≠ []) :
    runThe W D q = .noSolution ↔ ¬ ∃ α, q.Adm D α ∧ q.holds W α = true := by
  rw [c06_none_rows, List.eq_nil_iff_forall_not_mem]
  constructor
  · rintro h ⟨α, ha, hh⟩
    exact h _ (c02_rows_complete W D q hf α ha hh)
  · intro h r hr
    obtain ⟨α, ha, hh, _⟩ := c02_rows_sound W D q hf hne r hr
    exact h ⟨α, ha, hh⟩

theorem c06_ok [Inhabited V] (q : Query V) (hf : q.noFlat = true)
    (hne : ∀ v ∈ q.condVars, v ∉ Terms.vars q.sel → D v ≠ []) (r : List V)
    (h : runThe W D q = .ok r) :
    (∃ α, q.Adm D α ∧ q.holds W α = true ∧ r = termsVal W α q.sel) ∧
    (∀ α, q.Adm D α → q.holds W α = true → termsVal W α q.sel = r) := by
  have hr := (c06_consistent_with_an W D q r).1 h
  constructor
  · exact c02_rows_sound W D q hf hne r (hr ▸ List.mem_singleton_self r)
  · intro α ha hh
    exact List.mem_singleton.1 (hr ▸ c02_rows_complete W D q hf α ha hh)

/-- When every variable is selected no variable is left whose domain could be empty unnoticed. -/
private theorem hne_of_all_selected (q : Query V) (vs : List VarId) (hsel : q.sel = vs.map Term.var)
    (hall : ∀ v ∈ q.condVars, v ∈ vs) : ∀ v ∈ q.condVars, v ∉ Terms.vars q.sel → D v ≠ [] :=
  fun v hv hns => absurd (by rw [hsel, terms_vars_vars]; exact hall v hv) hns

theorem c06_multi_iff [Inhabited V] (q : Query V) (hf : q.noFlat = true)
    (hD : ∀ v, (D v).Nodup) (vs : List VarId) (hsel : q.sel = vs.map Term.var)
    (hall : ∀ v ∈ q.condVars, v ∈ vs) :
    runThe W D q = .multipleSolutions ↔
      ∃ α α', q.Adm D α ∧ q.holds W α = true ∧ q.Adm D α' ∧ q.holds W α' = true ∧
        termsVal W α q.sel ≠ termsVal W α' q.sel := by
  have hne := hne_of_all_selected D q vs hsel hall
  constructor
  · intro h
    unfold runThe at h
    split at h
    next => cases h
    next => cases h
    next a b bs hr =>
      have hs := c02_rows_sound W D q hf hne
      have hnd := c02_rows_nodup W D q hf hD vs hsel hall
      rw [hr] at hs hnd
      have hab : a ≠ b := fun e => (List.nodup_cons.1 hnd).1 (e ▸ List.mem_cons_self)
      obtain ⟨α, ha, hh, rfl⟩ := hs a List.mem_cons_self
      obtain ⟨α', ha', hh', rfl⟩ := hs b (List.mem_cons_of_mem _ List.mem_cons_self)
      exact ⟨α, α', ha, hh, ha', hh', hab⟩
  · rintro ⟨α, α', ha, hh, ha', hh', hdiff⟩
    -- the other two outcomes are excluded by their characterisations
    rcases c06_trichotomy W D q with ⟨h, _⟩ | ⟨r, h, _⟩ | ⟨h, _⟩
    · exact absurd ⟨α, ha, hh⟩ ((c06_none_iff W D q hf hne).1 h)
    · have hu := (c06_ok W D q hf hne r h).2
      exact absurd ((hu α ha hh).trans (hu α' ha' hh').symm) hdiff
    · exact h

/-- **C06, exact characterisation of the returned value** (every variable selected, duplicate-free
    domains): `the` returns `r` IF AND ONLY IF some satisfying assignment projects to `r` and every
    satisfying assignment does - neither raising nor returning anything else. -/
theorem c06_ok_iff [Inhabited V] (q : Query V) (hf : q.noFlat = true)
    (hD : ∀ v, (D v).Nodup) (vs : List VarId) (hsel : q.sel = vs.map Term.var)
    (hall : ∀ v ∈ q.condVars, v ∈ vs) (r : List V) :
    runThe W D q = .ok r ↔
      (∃ α, q.Adm D α ∧ q.holds W α = true ∧ r = termsVal W α q.sel) ∧
      (∀ α, q.Adm D α → q.holds W α = true → termsVal W α q.sel = r) := by
  have hne := hne_of_all_selected D q vs hsel hall
  refine ⟨c06_ok W D q hf hne r, ?_⟩
  rintro ⟨⟨α, ha, hh, _⟩, huniq⟩
  -- the other two outcomes are excluded by their characterisations
  rcases c06_trichotomy W D q with ⟨h, _⟩ | ⟨r', h, _⟩ | ⟨h, _⟩
  · exact absurd ⟨α, ha, hh⟩ ((c06_none_iff W D q hf hne).1 h)
  · obtain ⟨⟨α', ha', hh', he'⟩, _⟩ := c06_ok W D q hf hne r' h
    rw [h, he', huniq α' ha' hh']
  · obtain ⟨α₁, α₂, h₁, hh₁, h₂, hh₂, hd⟩ := (c06_multi_iff W D q hf hD vs hsel hall).1 h
    exact absurd ((huniq α₁ h₁ hh₁).trans (huniq α₂ h₂ hh₂).symm) hd

end Eql
