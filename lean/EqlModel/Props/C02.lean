/-
  C02 — a multi-variable query returns exactly the satisfying assignments.

  Soundness, completeness and "no row twice" are about the L1 model (`rows`), for an arbitrary `World`.
  `c02_l2_*` carry them to the STATEFUL layer (L2 machine, `Machine.lean`: the evaluator with its
  duplicate-tracking sets, result cache disabled): when every variable of the condition is selected the
  duplicate check never fires (induction over the tree with the invariant "every stored duplicate key
  clashes with the binding being evaluated", `Lemmas/MachineNoDup.lean`).
  Scope: flatten-free queries (flatten is C16); `c02_rows_sound` needs the hypothesis that every
  variable that is not selected has a non-empty domain — at the excluded point the implementation
  really differs from the relational reading (known finding C02-F1, `c02_empty_domain_witness`).
-/
import EqlModel.Lemmas.Clash
import EqlModel.Lemmas.Cond
import EqlModel.Lemmas.MachineNoDup
import EqlModel.NatWorld

namespace Eql
variable {V : Type}
variable (W : World V) (D : VarId → List V)

def Query.holds (q : Query V) (α : Asg V) : Bool :=
  match q.cond with
  | none => true
  | some c => denote W α c

def Query.condVars (q : Query V) : List VarId :=
  match q.cond with
  | none => []
  | some c => c.vars

def Query.noFlat (q : Query V) : Bool :=
  Terms.noFlat q.sel && (match q.cond with | none => true | some c => c.noFlat)

/-- An assignment is admissible for a query: every variable takes a value of its domain. -/
def Query.Adm (q : Query V) (α : Asg V) : Prop :=
  ∀ v ∈ q.condVars ++ Terms.vars q.sel, α v ∈ D v

/-- **Soundness.** Every row is the projection of an admissible assignment that satisfies the
    condition. -/
theorem c02_rows_sound [Inhabited V] (q : Query V) (hf : q.noFlat = true)
    (hne : ∀ v ∈ q.condVars, v ∉ Terms.vars q.sel → D v ≠ [])
    (r : List V) (hr : r ∈ rows W D q) :
    ∃ α, q.Adm D α ∧ q.holds W α = true ∧ r = termsVal W α q.sel := by
  obtain ⟨sel, cond⟩ := q
  simp only [Query.noFlat, Bool.and_eq_true] at hf
  simp only [rows, List.mem_flatMap, List.mem_map] at hr
  obtain ⟨p, hp, q2, hq2, rfl⟩ := hr
  have hb1 : BOk D p.1 := by
    cases cond with
    | none => rw [List.mem_singleton.1 hp]; exact bok_nil D
    | some c => exact cond_bok W D c hf.2 [] p.1 p.2 false (bok_nil D) hp
  obtain ⟨α, hadm, hext, he⟩ := args_row_sound W D sel hf.1 (Query.condVars ⟨sel, cond⟩ ++ Terms.vars sel) p.1 hb1
    (fun v hv => (Classical.em (v ∈ Terms.vars sel)).imp_right fun hns =>
      .inr (hne v ((List.mem_append.1 hv).resolve_right hns) hns)) q2 hq2
  refine ⟨α, hadm, ?_, he⟩
  cases cond with
  | none => rfl
  | some c =>
    rw [← Bool.not_false, ← evalCond_flag W D c hp]
    exact (cond_sound W D c hf.2 [] p.1 p.2 false hp α (fun v hv => hadm v (List.mem_append_left _ hv)) hext).2

/-- **Completeness.** The projection of every admissible satisfying assignment is returned. -/
theorem c02_rows_complete (q : Query V) (hf : q.noFlat = true)
    (α : Asg V) (hadm : q.Adm D α) (hh : q.holds W α = true) :
    termsVal W α q.sel ∈ rows W D q := by
  obtain ⟨sel, cond⟩ := q
  simp only [Query.noFlat, Bool.and_eq_true] at hf
  have hsel : ∀ v ∈ Terms.vars sel, α v ∈ D v := fun v hv => hadm v (List.mem_append_right _ hv)
  cases cond with
  | none => exact List.mem_flatMap.2 ⟨_, List.mem_singleton_self _, args_row_complete W D sel hf.1 [] α (ext_nil α) hsel⟩
  | some c =>
    obtain ⟨p, hp, e1⟩ := cond_complete W D c hf.2 [] α false (ext_nil α)
      (fun v hv => hadm v (List.mem_append_left _ hv)) (Or.inr hh)
    exact List.mem_flatMap.2 ⟨p, hp, args_row_complete W D sel hf.1 p.1 α e1 hsel⟩

def asgOfBnd [Inhabited V] (β : Bnd V) : Asg V := fun v => (β.lookup v).getD default

theorem ext_asgOfBnd [Inhabited V] (β : Bnd V) : Ext β (asgOfBnd β) := ext_asgOf β

theorem termsVal_vars (α : Asg V) (vs : List VarId) :
    termsVal W α (vs.map Term.var) = vs.map α := by
  induction vs with
  | nil => rfl
  | cons v vs ih => simp [termsVal, termVal, ih]

theorem terms_vars_vars (vs : List VarId) : Terms.vars (vs.map (Term.var (V := V))) = vs := by
  induction vs with
  | nil => rfl
  | cons v vs ih => simp [Terms.vars, Term.vars, ih]

theorem terms_noFlat_vars (vs : List VarId) : Terms.noFlat (vs.map (Term.var (V := V))) = true := by
  induction vs with
  | nil => rfl
  | cons v vs ih => simp [Terms.noFlat, Term.noFlat, ih]

private theorem same_row_compat [Inhabited V] (vs : List VarId) (β1 β2 b1 b2 : Bnd V) (r : List V)
    (h1 : (b1, r) ∈ evalArgs W D (vs.map Term.var) β1)
    (h2 : (b2, r) ∈ evalArgs W D (vs.map Term.var) β2)
    (hsupp : ∀ w, bound β2 w = true → w ∈ vs) :
    ∃ α, Ext b1 α ∧ Ext b2 α := by
  refine ⟨asgOfBnd b1, ext_asgOfBnd b1, fun v a hv => ?_⟩
  have s1 := (args_sound W D _ (terms_noFlat_vars vs) β1 b1 r h1 _ (ext_asgOfBnd b1)).2
  have s2 := (args_sound W D _ (terms_noFlat_vars vs) β2 b2 r h2 _ (ext_asgOfBnd b2)).2
  rw [termsVal_vars, ← s2, termsVal_vars] at s1
  have hvs : v ∈ vs := by
    rcases (args_supp W D _ (terms_noFlat_vars vs) β2 b2 r h2 v).1 (bound_iff.2 ⟨a, hv⟩) with h | h
    · exact hsupp v h
    · rwa [terms_vars_vars] at h
  rw [List.map_inj_left.1 s1 v hvs]
  exact ext_asgOfBnd b2 v a hv

/-- The final bindings are pairwise incompatible like the outputs of the condition they extend, and two
    incompatible ones cannot give the same row. -/
private theorem nodup_of_outs [Inhabited V] (hD : ∀ v, (D v).Nodup) (vs : List VarId)
    (outs : List (Bnd V × Bool)) (hpw : outs.Pairwise fun p q => Inc p.1 q.1)
    (hsupp : ∀ p ∈ outs, ∀ w, bound p.1 w = true → w ∈ vs) :
    (outs.flatMap fun p => (evalArgs W D (vs.map Term.var) p.1).map (·.2)).Nodup := by
  have hf := terms_noFlat_vars (V := V) vs
  rw [← List.map_flatMap]
  refine List.pairwise_map.2 (List.Pairwise.imp_of_mem ?_ (pairwise_flatMap_of_sub (separates_inc hD) hpw
    (fun p _ => args_pairwise W (separates_inc hD) _ hf p.1) fun p _ x hx => args_sub W D _ hf p.1 x.1 x.2 hx))
  intro x y hx hy hinc he
  obtain ⟨p, _, hx⟩ := List.mem_flatMap.1 hx
  obtain ⟨p', hp', hy⟩ := List.mem_flatMap.1 hy
  obtain ⟨α, e1, e2⟩ := same_row_compat W D vs p.1 p'.1 x.1 y.1 x.2 hx (he ▸ hy) (hsupp p' hp')
  exact hinc α e1 e2

/-- **No row twice.** When every variable of the query is selected (and the domains list
    distinct objects) the rows are pairwise different, so the row count is the number of
    satisfying assignments. -/
theorem c02_rows_nodup [Inhabited V] (q : Query V) (hf : q.noFlat = true)
    (hD : ∀ v, (D v).Nodup) (vs : List VarId) (hsel : q.sel = vs.map Term.var)
    (hall : ∀ v ∈ q.condVars, v ∈ vs) : (rows W D q).Nodup := by
  obtain ⟨sel, cond⟩ := q
  simp only at hsel
  subst hsel
  simp only [Query.noFlat, Bool.and_eq_true] at hf
  cases cond with
  | none =>
    refine nodup_of_outs W D hD vs _ (List.pairwise_singleton _ _) fun p hp w hw => ?_
    rw [List.mem_singleton.1 hp] at hw
    cases hw
  | some c =>
    refine nodup_of_outs W D hD vs _ (cond_pairwise W (separates_inc hD) c hf.2 [] false) fun p hp w hw => ?_
    exact (cond_supp W D c hf.2 [] p.1 p.2 false hp w hw).elim (fun h => nomatch h) (hall w)

/-- **An empty domain of a selected variable empties the answer**: the product of the domains is empty, so
    there is no row - whatever the condition (the statement a change that takes an explicit empty domain for
    "no domain given" breaks). -/
theorem c02_empty_domain_no_rows [Inhabited V] (q : Query V) (hf : q.noFlat = true)
    (hne : ∀ v ∈ q.condVars, v ∉ Terms.vars q.sel → D v ≠ [])
    (v : VarId) (hv : v ∈ Terms.vars q.sel) (hE : D v = []) :
    rows W D q = [] := by
  refine List.eq_nil_iff_forall_not_mem.2 fun r hr => ?_
  obtain ⟨α, ha, _, _⟩ := c02_rows_sound W D q hf hne r hr
  exact List.not_mem_nil (hE ▸ ha v (List.mem_append_right _ hv))

/-- **The excluded point is real** (known finding C02-F1): `x` over [1, 2, 3], `z` over the empty
    domain, `an(entity(x, or_(x > 1, z > 1)))`.  The model (like the implementation) returns 2 and
    3, although no admissible assignment of (x, z) exists at all. -/
theorem c02_empty_domain_witness :
    let D : VarId → List Nat := fun v => if v = 0 then [1, 2, 3] else []
    let q : Query Nat := ⟨[.var 0], some (.elseIf (.cmp .gt (.var 0) (.lit 1)) (.cmp .gt (.var 1) (.lit 1)))⟩
    rows natWorld D q = [[2], [3]] ∧ ¬ ∃ α, q.Adm D α := by
  refine ⟨by decide +kernel, ?_⟩
  rintro ⟨α, h⟩
  have := h 1 (by simp [Query.condVars, Cond.vars, Term.vars])
  simp at this

/-- Non-vacuity: a two-variable join whose hypotheses hold and whose answer is not trivial. -/
example :
    let D : VarId → List Nat := fun v => if v = 0 then [1, 2, 3] else [2, 3, 4]
    rows natWorld D ⟨[.var 0, .var 1], some (.and (.cmp .lt (.var 0) (.var 1)) (.cmp .ne (.var 1) (.lit 4)))⟩
      = [[1, 2], [1, 3], [2, 3]] := by decide +kernel

/-- **C02 at the stateful layer.**  With the result cache disabled and every variable of the condition
    selected, the evaluator WITH its duplicate tracking returns, on the first and on every later
    evaluation of the same query object, exactly the rows of the L1 evaluation (in order). -/
theorem c02_l2_all_selected [BEq V] (P : Machine.Params V) (hinj : Function.Injective P.rank)
    (hK : KeysNodup P.toKey D) (q : Query V) (c : Cond V) (hq : q.cond = some c) (hf : c.noFlat = true)
    (hall : ∀ v ∈ c.vars, v ∈ q.sel.flatMap Term.binds) (n : Nat) :
    (Machine.rowsM W D P false q (Machine.afterEvals W D P q n [])).1 = rows W D q :=
  Machine.rowsM_off_all_selected_iter W D P hinj hK q c hq hf hall n [] Machine.dedupClean_nil

theorem c02_l2_nodup [BEq V] [Inhabited V] (P : Machine.Params V) (hinj : Function.Injective P.rank)
    (hK : KeysNodup P.toKey D) (hD : ∀ v, (D v).Nodup) (q : Query V) (c : Cond V) (hq : q.cond = some c)
    (hf : q.noFlat = true) (vs : List VarId) (hsel : q.sel = vs.map Term.var) (hall : ∀ v ∈ c.vars, v ∈ vs)
    (n : Nat) :
    (Machine.rowsM W D P false q (Machine.afterEvals W D P q n [])).1.Nodup := by
  have hfc : c.noFlat = true := by
    simp only [Query.noFlat, hq, Bool.and_eq_true] at hf; exact hf.2
  have hall' : ∀ v ∈ c.vars, v ∈ q.sel.flatMap Term.binds := fun v hv =>
    hsel ▸ List.mem_flatMap.2 ⟨.var v, List.mem_map_of_mem (hall v hv), List.mem_singleton_self v⟩
  rw [c02_l2_all_selected W D P hinj hK q c hq hfc hall' n]
  exact c02_rows_nodup W D q hf hD vs hsel (by simpa [Query.condVars, hq] using hall)

/-- Non-vacuity: a disjunction over two selected variables (duplicate tracking is active on the right
    branch of the ElseIf); three evaluations in a row give the L1 rows. -/
example :
    let D : VarId → List Nat := fun v => if v = 0 then [1, 2] else [2, 3]
    let P : Machine.Params Nat := { rank := id, toKey := id, ofKey := id }
    let q : Query Nat := ⟨[.var 0, .var 1], some (.elseIf (.cmp .lt (.var 0) (.var 1)) (.cmp .eq (.var 0) (.var 1)))⟩
    (Machine.rowsM natWorld D P false q (Machine.afterEvals natWorld D P q 2 [])).1 = rows natWorld D q ∧
    rows natWorld D q = [[1, 2], [1, 3], [2, 2], [2, 3]] := by decide +kernel

end Eql
