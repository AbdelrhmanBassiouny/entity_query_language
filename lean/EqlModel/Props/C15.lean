/-
  C15 — a sub-query used inside a query means the same as its conditions inlined.

    c15_sub_denote    an(entity(v, c)) in condition position denotes c
    c15_sub_forwards  its evaluation is the evaluation of c followed by binding the selected
                      variable (sources and `yield_when_false` forwarded) — the mechanism
    c15_inline_rows   at any depth under & and | (and not_ of the enclosing conditions), the
                      composed query and the query with every sub-query replaced by its
                      conditions return the same rows
  Sub-queries as comparison operands / constructor arguments: correspondence only (C13, C11), except the
  de-duplication key of a correlated sub-query operand (R36): `c15_operand_pairs_survive`,
  `c15_operand_requirement_tied`.
-/
import EqlModel.Props.C03
import EqlModel.Gen.Tables

namespace Eql
variable {V : Type}
variable (W : World V) (D : VarId → List V)

theorem c15_sub_denote (α : Asg V) (sel : List (Term V)) (c : Cond V) :
    denote W α (.sub sel c) = denote W α c := rfl

theorem c15_sub_forwards (sel : List (Term V)) (c : Cond V) (β : Bnd V) (ywf : Bool) :
    evalCond W D (.sub sel c) β ywf =
      (evalCond W D c β ywf).flatMap fun p => (evalArgs W D sel p.1).map fun q => (q.1, p.2) := by
  simp [evalCond]

def inline : SCond V → SCond V
  | .and2 l r => .and2 (inline l) (inline r)
  | .or2 l r => .or2 (inline l) (inline r)
  | .not c => .not (inline c)
  | .sub _ c => inline c
  | c => c

theorem inline_sdenote (α : Asg V) : ∀ (c : SCond V), sdenote W α (inline c) = sdenote W α c := by
  intro c
  induction c with
  | and2 l r ihl ihr | or2 l r ihl ihr => simp only [inline, sdenote, ihl, ihr]
  | not c ih => exact congrArg (!·) ih
  | sub sel c ih => exact ih
  | _ => rfl

theorem inline_noFlat : ∀ (c : SCond V), c.noFlat = true → (inline c).noFlat = true := by
  intro c
  induction c with
  | and2 l r ihl ihr | or2 l r ihl ihr =>
    exact fun h => Bool.and_eq_true_iff.2 (.imp ihl ihr (Bool.and_eq_true_iff.1 h))
  | not c ih => exact ih
  | sub sel c ih => exact fun h => ih (Bool.and_eq_true_iff.1 h).1
  | _ => exact id

theorem inline_vars_sub : ∀ (c : SCond V) (v : VarId), v ∈ (inline c).vars → v ∈ c.vars := by
  intro c v
  induction c with
  | and2 l r ihl ihr | or2 l r ihl ihr =>
    exact fun h => List.mem_append.2 ((List.mem_append.1 h).imp ihl ihr)
  | not c ih => exact ih
  | sub sel c ih => exact fun h => List.mem_append_left _ (ih h)
  | _ => exact id

/-- Side condition `hsub`: a variable selected by a sub-query is also mentioned by conditions or selected
    by the enclosing query (otherwise it ranges freely in the composed form and does not exist in the flat
    one). -/
theorem c15_inline_rows [Inhabited V] (hW : W.Lawful) (sel : List (Term V)) (sc : SCond V)
    (hfs : Terms.noFlat sel = true) (hfc : sc.noFlat = true)
    (hne : ∀ v ∈ sc.vars, v ∉ Terms.vars sel → D v ≠ [])
    (hsub : ∀ v ∈ sc.vars, v ∈ (inline sc).vars ∨ v ∈ Terms.vars sel) (r : List V) :
    r ∈ rows W D ⟨sel, some (build sc)⟩ ↔ r ∈ rows W D ⟨sel, some (build (inline sc))⟩ := by
  rw [c03_rows_iff W D hW sel sc hfs hfc hne r,
    c03_rows_iff W D hW sel (inline sc) hfs (inline_noFlat sc hfc)
      (fun v hv hns => hne v (inline_vars_sub sc v hv) hns) r]
  refine exists_congr fun α => and_congr (forall_congr' fun v => ?_) (and_congr_left' (by rw [inline_sdenote]))
  rw [List.mem_append, List.mem_append]
  exact imp_congr_left ⟨fun h => h.elim (hsub v) .inr, Or.imp_left (inline_vars_sub sc v)⟩

end Eql

namespace Eql.OperandDedup

/-- Duplicate suppression of an operand's outputs: the first output of every key is kept (`_is_duplicate_output_`: the key is
    the projection of the output on the variables required above the operand). -/
def dedupBy {α κ : Type} [DecidableEq κ] (key : α → κ) : List α → List κ → List α
  | [], _ => []
  | x :: xs, seen => if key x ∈ seen then dedupBy key xs seen else x :: dedupBy key xs (key x :: seen)

theorem dedupBy_sublist {α κ : Type} [DecidableEq κ] (key : α → κ) :
    ∀ (xs : List α) (seen : List κ), (dedupBy key xs seen).Sublist xs
  | [], _ => .slnil
  | x :: xs, seen => by
    unfold dedupBy
    split
    · exact .cons _ (dedupBy_sublist key xs seen)
    · exact .cons_cons _ (dedupBy_sublist key xs _)

theorem mem_dedupBy_of_injective {α κ : Type} [DecidableEq κ] (key : α → κ)
    (inj : ∀ a b, key a = key b → a = b) (xs : List α) (seen : List κ) :
    ∀ x, x ∈ xs → key x ∉ seen → x ∈ dedupBy key xs seen := by
  induction xs generalizing seen with
  | nil => intro x h; cases h
  | cons y ys ih =>
    intro x hx hs
    unfold dedupBy
    split
    next hy => exact ih seen x ((List.mem_cons.1 hx).resolve_left fun e => hs (e ▸ hy)) hs
    next =>
      by_cases hk : key x = key y
      · exact inj _ _ hk ▸ List.mem_cons_self
      · exact List.mem_cons_of_mem _ (ih _ x ((List.mem_cons.1 hx).resolve_left fun e => hk (e ▸ rfl))
          fun hm => (List.mem_cons.1 hm).elim hk hs)

/-- R36 as a statement about the comparison `l op sub(l)`: the outputs of the right operand are pairs (value of the left
    operand, solution of the correlated sub-query). De-duplicated on BOTH components (what the right operand of a `Comparator`
    requires), the pairs that satisfy the comparison are exactly those of the undeduplicated stream. -/
theorem c15_operand_pairs_survive {L R : Type} [DecidableEq L] [DecidableEq R] (outs : List (L × R)) (cmp : L × R → Bool) :
    ∀ p, p ∈ (dedupBy (fun q : L × R => q) outs []).filter cmp ↔ p ∈ outs.filter cmp := by
  intro p
  rw [List.mem_filter, List.mem_filter]
  exact and_congr_left' ⟨fun h => (dedupBy_sublist _ _ _).subset h,
    fun h => mem_dedupBy_of_injective _ (fun _ _ h => h) outs [] p h List.not_mem_nil⟩

/-- With the solution alone as the key, the solution `1`, rejected under the left value `0`, is suppressed under the left
    value `1`, where the comparison holds - the row is lost. -/
example : (dedupBy (fun q : Nat × Nat => q.2) [(0, 1), (1, 1)] []).filter (fun q => q.1 == q.2) = []
    ∧ [(0, 1), (1, 1)].filter (fun q : Nat × Nat => q.1 == q.2) = [(1, 1)] := by decide

/-- Tie to the source (regenerated): the right operand of a `Comparator` requires the variables of the left one. -/
theorem c15_operand_requirement_tied : Gen.comparatorRightRequiresLeft = true := by decide

end Eql.OperandDedup
