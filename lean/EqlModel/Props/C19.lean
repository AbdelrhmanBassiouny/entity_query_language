/-
  C19 — values are not truth: falsy values are handled like any other value.

  All theorems of C01/C02/C03 quantify over an arbitrary `World`, with no hypothesis on
  `truthy`.  The mechanism is isolated here:
    c19_term_truthy_irrelevant   evaluating a value-position expression never consults `truthy`
    c19_rows_truthy_irrelevant   a query whose leaves are comparisons / membership tests returns
                                 the same rows whatever `truthy` says about any value
    c19_condition_position       only an expression standing in condition position is read as a
                                 boolean: its output flag is `truthy value == invert`
-/
import EqlModel.Eval

namespace Eql
variable {V : Type}
variable (D : VarId → List V)

def World.withTruthy (W : World V) (t : V → Bool) : World V := { W with truthy := t }

theorem c19_term_truthy_irrelevant (W : World V) (t' : V → Bool) : ∀ (t : Term V) (β : Bnd V),
    evalTerm (W.withTruthy t') D t β = evalTerm W D t β := by
  intro t
  induction t with
  | var v | lit c => intro β; rfl
  | attr _ t ih | index _ t ih | call _ _ t ih | flatten _ t ih | concat _ t ih =>
    intro β; simp only [evalTerm, ih]; rfl

theorem c19_args_truthy_irrelevant (W : World V) (t' : V → Bool) : ∀ (ts : List (Term V)) (β : Bnd V),
    evalArgs (W.withTruthy t') D ts β = evalArgs W D ts β := by
  intro ts
  induction ts with
  | nil => intro β; rfl
  | cons t ts ih => intro β; simp only [evalArgs, ih, c19_term_truthy_irrelevant]

/-- Every leaf is a comparison or membership test (values are only used as values). -/
def Cond.valueOnly : Cond V → Bool
  | .cmp _ _ _ => true
  | .truth _ _ => false
  | .pred _ _ _ => false
  | .and l r => l.valueOnly && r.valueOnly
  | .elseIf l r => l.valueOnly && r.valueOnly
  | .sub _ c => c.valueOnly

theorem c19_cond_truthy_irrelevant (W : World V) (t' : V → Bool) : ∀ (c : Cond V),
    c.valueOnly = true → ∀ (β : Bnd V) (ywf : Bool),
    evalCond (W.withTruthy t') D c β ywf = evalCond W D c β ywf := by
  intro c
  induction c with
  | cmp op l r =>
    intro _ β ywf
    simp only [evalCond, c19_term_truthy_irrelevant]
    rfl
  | truth inv t | pred inv n args => intro h; cases h
  | and l r ihl ihr | elseIf l r ihl ihr =>
    intro h β ywf
    have h := Bool.and_eq_true_iff.1 h
    simp only [evalCond, ihl h.1, ihr h.2]
  | sub sel c ih =>
    intro h β ywf
    simp only [evalCond, ih h, c19_args_truthy_irrelevant]

theorem c19_rows_truthy_irrelevant (W : World V) (t' : V → Bool) (sel : List (Term V)) (c : Cond V)
    (h : c.valueOnly = true) :
    rows (W.withTruthy t') D ⟨sel, some c⟩ = rows W D ⟨sel, some c⟩ := by
  simp only [rows, c19_cond_truthy_irrelevant D W t' c h, c19_args_truthy_irrelevant]

theorem c19_rows_truthy_irrelevant_nocond (W : World V) (t' : V → Bool) (sel : List (Term V)) :
    rows (W.withTruthy t') D ⟨sel, none⟩ = rows W D ⟨sel, none⟩ := by
  simp only [rows, c19_args_truthy_irrelevant]

theorem c19_condition_position (W : World V) (inv : Bool) (t : Term V) (β : Bnd V) :
    evalCond W D (.truth inv t) β true =
      (evalTerm W D t β).map fun p => (p.1, W.truthy p.2 == inv) := by
  simp only [evalCond, Bool.or_true, if_true]
  exact List.map_eq_flatMap.symm

end Eql
