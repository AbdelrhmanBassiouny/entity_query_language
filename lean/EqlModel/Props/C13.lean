/-
  C13 — predicate-form terms equal the explicit form and filter by type.

  Transliteration (predicate.py): `update_domain_and_kwargs_from_args` ↦ bindFields,
  `properties_to_expression_tree` ↦ predFormCond, `symbolic_new` (domain branch) ↦ predForm.
    c13_positional       after the domain, the i-th positional value constrains the i-th field
                         (fix 2a62b6d; keyword arguments keep their names)
    c13_build_equal      `T(From(d), f1=v1, …)` constructs exactly the tree of the explicit query
                         `an(entity(x, x.f1 == v1, …))` over `x := let(T, d)` (the bare variable when
                         no field is given)
    c13_same_rows        … hence the same rows, in the same order (what the rows of the explicit query
                         are is said by C01-C03)
    c13_type_filter      (restated from C01) a variable of type T over a supplied domain ranges over
                         exactly the members that are instances of T (subclasses included), each once —
                         `let(T, d)` and `T(From(d))` are the same code path (`let` calls
                         `type_(From(domain))`)
  Values that are nested predicate-form terms (sub-queries as operands) are covered by the
  correspondence check only.
-/
import EqlModel.Props.C01

namespace Eql
variable {V : Type}

/-- `kwargs.update(positional)`: keyword arguments first, then each positional value under the
    name of the constructor parameter at its position (after `self`, the domain not counted). -/
def bindFields (initArgs : List String) (pos : List (Term V)) (kw : List (String × Term V)) :
    List (String × Term V) :=
  kw ++ initArgs.zip pos

/-- `getattr(var, k) == v` through the dunder table. -/
def fieldEq (x : VarId) (f : String × Term V) : Cond V := buildCmp .eq (.attr f.1 (.var x)) f.2

/-- `properties_to_expression_tree`: one equality per field, chained with AND. -/
def predFormCond (x : VarId) : List (String × Term V) → Option (Cond V)
  | [] => none
  | f :: fs => some (chain .and (fieldEq x f) (fs.map (fieldEq x)))

/-- What `T(From(d), …)` returns as a condition-position node: `An(Entity(expr, [var]))`, or the
    bare variable (no condition) when no field is given. -/
def predForm (x : VarId) (initArgs : List String) (pos : List (Term V)) (kw : List (String × Term V)) :
    Option (Cond V) :=
  (predFormCond x (bindFields initArgs pos kw)).map fun e => .sub [.var x] e

/-- The explicit surface query: `an(entity(x, x.f1 == v1, …))`. -/
def explicitForm (x : VarId) : List (String × Term V) → Option (SCond V)
  | [] => none
  | f :: fs => some (.sub [.var x] (chain .and2 (.cmp .eq (.attr f.1 (.var x)) f.2)
      (fs.map fun g => .cmp .eq (.attr g.1 (.var x)) g.2)))

theorem c13_positional (initArgs : List String) (pos : List (Term V)) (i : Nat)
    (hi : i < pos.length) (hl : pos.length ≤ initArgs.length) :
    (bindFields initArgs pos [])[i]? = some (initArgs[i]'(Nat.lt_of_lt_of_le hi hl), pos[i]) := by
  show (initArgs.zip pos)[i]? = _
  exact List.getElem?_zip_eq_some.2 ⟨List.getElem?_eq_getElem _, List.getElem?_eq_getElem hi⟩

theorem build_chain_and : ∀ (cs : List (SCond V)) (c : SCond V),
    build (chain .and2 c cs) = chain .and (build c) (cs.map build) := by
  intro cs
  induction cs with
  | nil => intro c; rfl
  | cons d ds ih => intro c; simp [chain, ih, build]

theorem c13_build_equal (x : VarId) (initArgs : List String) (pos : List (Term V))
    (kw : List (String × Term V)) :
    predForm x initArgs pos kw = (explicitForm x (bindFields initArgs pos kw)).map build := by
  unfold predForm
  cases bindFields initArgs pos kw with
  | nil => rfl
  | cons f fs =>
    simp only [predFormCond, explicitForm, Option.map, build, build_chain_and, List.map_map, fieldEq]
    rfl

theorem c13_same_rows (W : World V) (D : VarId → List V) (sel : List (Term V)) (x : VarId)
    (initArgs : List String) (pos : List (Term V)) (kw : List (String × Term V)) :
    rows W D ⟨sel, predForm x initArgs pos kw⟩ =
      rows W D ⟨sel, (explicitForm x (bindFields initArgs pos kw)).map build⟩ := by
  rw [c13_build_equal]

theorem c13_type_filter [BEq V] [LawfulBEq V] (W : World V) (cls : String) (raw : List V) (o : V) :
    (o ∈ mkDom W cls raw ↔ (o ∈ raw ∧ W.isInst cls o = true)) ∧ (mkDom W cls raw).Nodup :=
  ⟨c01_domain_instances W cls raw o, c01_domain_nodup W cls raw⟩

end Eql
