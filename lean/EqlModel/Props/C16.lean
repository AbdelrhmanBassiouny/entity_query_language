/-
  C16 — `flatten` behaves as UNNEST: one row per inner element, correlated with its parent.

  `e = flatten(t)` where `t` (e.g. `p.items`) is an expression over the parent variable `p`;
  `items v` are the elements of a value (`is_iterable` else singleton).  LIST equalities (order:
  parents in domain order, then inner order; multiplicities kept):
    c16_unnest_pair        set_of([p, e])                 = [(p, x) | p ∈ parents, x ∈ items(t(p))]
    c16_unnest_elem        entity(e)                      = [x | p ∈ parents, x ∈ items(t(p))]
    c16_unnest_parent_cond set_of([p, e], c(p))           = the same, restricted to parents with c
    c16_unnest_elem_cond   set_of([p, e], e ⋈ k)          = the same, restricted to elements with ⋈ k
    c16_unnest_both_cond   set_of([p, e], and_(c(p), e ⋈ k)) = restricted to parents with c AND elements with ⋈ k
    c16_unnest_elem_vs_parent  set_of([p, e], e ⋈ t₂(p)) = per parent, the elements that compare with ITS value of t₂
    c16_nonempty_singleton a non-iterable value counts as a single element (given `items v = [v]`)
  ANY condition and selection (set level, `Lemmas/Flat.lean`: the soundness / completeness lemmas of the L1
  evaluator WITH flatten nodes - an assignment also gives every flatten node the element it stands
  for, admissible when that element belongs to the collection its operand denotes under the same assignment):
  `c16_unnest_complete_general`, `c16_unnest_sound_general`, and the equivalence `c16_unnest_rows_iff` for every
  condition whose disjunctions bind the same ids on both sides (`Cond.uniformB`).  The forward witness of the
  equivalence is the output binding itself: `Lemmas/FlatAdm.lean` proves that evaluation only ever produces
  admissible bindings (`Adm`: variables hold members of their domains, flatten nodes hold elements of what
  their operand denotes under the SAME binding) and that a true output binds every id of a uniform condition.
  Multiplicities of other combinations (disjunctions, overlapping collections) are covered by the
  correspondence check.  (`or_` over a repeated element inside ONE collection suppresses the duplicate: set
  equality only — measured, see DESIGN.)
  `c16_same_element_twice` / `c16_pred_same_element`: a predicate P(e, e) whose two arguments are the SAME
  flatten node.
-/
import EqlModel.Lemmas.Closed
import EqlModel.Lemmas.Flat
import EqlModel.Lemmas.FlatAdm

namespace Eql
variable {V : Type}
variable (W : World V) (D : VarId → List V)

/-- The expression under `flatten` mentions the parent variable and nothing else. -/
structure FlatWF (p f : VarId) (t : Term V) : Prop where
  noFlat : t.noFlat = true
  vars : ∀ v ∈ t.vars, v = p
  nonempty : t.vars ≠ []
  fresh : f ≠ p

def inner (t : Term V) (o : V) : List V := W.items (termVal W (constAsg o) t)

private theorem lk_under (p f : VarId) (o e : V) (h : f ≠ p) :
    List.lookup p [(f, e), (p, o)] = some o := by
  rw [lookup_cons_ne _ e (Ne.symm h)]; exact lookup_self

private theorem flat_under_parent (p f : VarId) (t : Term V) (h : FlatWF p f t) (o : V) :
    evalTerm W D (.flatten f t) [(p, o)] =
      (inner W t o).map fun e => ([(f, e), (p, o)], e) := by
  have ht : evalTerm W D t [(p, o)] = [([(p, o)], termVal W (constAsg o) t)] :=
    term_closed_on W D t h.noFlat _ _ fun v hv => by rw [h.vars v hv]; exact lookup_self
  have hl : List.lookup f [(p, o)] = none := by rw [lookup_cons_ne [] o h.fresh]; rfl
  simp only [evalTerm, hl, ht, List.flatMap_cons, List.flatMap_nil, List.append_nil, inner]

private theorem flat_unbound (p f : VarId) (t : Term V) (h : FlatWF p f t) :
    evalTerm W D (.flatten f t) [] =
      (D p).flatMap fun o => (inner W t o).map fun e => ([(f, e), (p, o)], e) := by
  have hl : List.lookup f ([] : Bnd V) = none := rfl
  simp only [evalTerm, hl, term_dist_frame W D p [] rfl t h.noFlat h.vars h.nonempty, List.flatMap_map, inner]

private theorem sel_under_parent (p f : VarId) (t : Term V) (h : FlatWF p f t) (o : V) :
    (evalArgs W D [.var p, .flatten f t] [(p, o)]).map (·.2) = (inner W t o).map fun e => [o, e] := by
  simp only [evalArgs_two, evalTerm_var_self, List.flatMap_cons, List.flatMap_nil, List.append_nil,
    flat_under_parent W D p f t h o, List.map_map]
  rfl

private theorem sel_under_both (p f : VarId) (t : Term V) (h : FlatWF p f t) (o e : V) :
    (evalArgs W D [.var p, .flatten f t] [(f, e), (p, o)]).map (·.2) = [[o, e]] := by
  simp only [evalArgs_two, evalTerm, lk_under p f o e h.fresh, lookup_self, List.flatMap_cons,
    List.flatMap_nil, List.append_nil, List.map_cons, List.map_nil]

private theorem sel_unbound (p f : VarId) (t : Term V) (h : FlatWF p f t) :
    (evalArgs W D [.var p, .flatten f t] []).map (·.2) =
      (D p).flatMap fun o => (inner W t o).map fun e => [o, e] := by
  -- the first selected expression binds the parent; the rest is the selection under the bound parent
  have hstep : evalArgs W D [.var p, .flatten f t] [] =
      (D p).flatMap fun o => evalArgs W D [.var p, .flatten f t] [(p, o)] := by
    simp only [evalArgs_two, evalTerm_var_unbound W D (x := p) (β := []) rfl, evalTerm_var_self, List.flatMap_map,
      List.flatMap_cons, List.flatMap_nil, List.append_nil]
  simp only [hstep, List.map_flatMap, sel_under_parent W D p f t h]

theorem c16_unnest_pair (p f : VarId) (t : Term V) (h : FlatWF p f t) :
    rows W D ⟨[.var p, .flatten f t], none⟩ =
      (D p).flatMap fun o => (inner W t o).map fun e => [o, e] := by
  simp only [rows, List.flatMap_cons, List.flatMap_nil, List.append_nil, sel_unbound W D p f t h]

theorem c16_unnest_elem [Inhabited V] (p f : VarId) (t : Term V) (h : FlatWF p f t) :
    rows W D ⟨[.flatten f t], none⟩ = (D p).flatMap fun o => (inner W t o).map fun e => [e] := by
  simp only [rows, List.flatMap_cons, List.flatMap_nil, List.append_nil, evalArgs_one,
    flat_unbound W D p f t h, List.map_flatMap, List.map_map]
  rfl

theorem c16_unnest_parent_cond [Inhabited V] (p f : VarId) (t : Term V) (h : FlatWF p f t)
    (c : Cond V) (hc : c.noFlat = true) (hs : Cond.single p c) :
    rows W D ⟨[.var p, .flatten f t], some c⟩ =
      ((D p).filter fun o => denote W (constAsg o) c).flatMap fun o =>
        (inner W t o).map fun e => [o, e] := by
  simp only [rows, cond_dist W D p c hc hs false, List.flatMap_assoc, singleOut, closedOut_flatMap,
    Bool.or_false, sel_under_parent W D p f t h, flatMap_ite]

private theorem elem_cond_outs (f : VarId) (op : CmpOp) (r : V) (β : Bnd V) (es : List V) :
    ((es.map fun e => (((f, e) :: β : Bnd V), e)).flatMap fun p2 =>
        if (W.cmp op p2.2 r || false) = true then [(p2.1, !W.cmp op p2.2 r)] else []) =
      (es.filter fun e => W.cmp op e r).map fun e => ((f, e) :: β, false) := by
  rw [List.flatMap_map, ← flatMap_ite_singleton]
  exact flatMap_congr_mem fun e _ => by cases W.cmp op e r <;> rfl

private theorem elem_cond_unbound (p f : VarId) (t r : Term V) (h : FlatWF p f t) (op : CmpOp) (rv : V → V)
    (hr : ∀ o e, evalTerm W D r [(f, e), (p, o)] = [([(f, e), (p, o)], rv o)]) :
    evalCond W D (.cmp op (.flatten f t) r) [] false =
      (D p).flatMap fun o => ((inner W t o).filter fun e => W.cmp op e (rv o)).map fun e =>
        ([(f, e), (p, o)], false) := by
  simp only [evalCond, rightFirst_nil, Bool.false_eq_true, if_false, flat_unbound W D p f t h, List.flatMap_assoc,
    List.flatMap_map, hr, List.flatMap_cons, List.flatMap_nil, List.append_nil]
  exact flatMap_congr_mem fun o _ => (List.flatMap_map ..).symm.trans (elem_cond_outs W f op (rv o) [(p, o)] _)

private theorem rows_of_pairs (p f : VarId) (t : Term V) (h : FlatWF p f t) (os : List V) (es : V → List V) :
    ((os.flatMap fun o => (es o).map fun e => (([(f, e), (p, o)] : Bnd V), false)).flatMap fun q =>
        (evalArgs W D [.var p, .flatten f t] q.1).map (·.2)) =
      os.flatMap fun o => (es o).map fun e => [o, e] := by
  simp only [List.flatMap_assoc, List.flatMap_map, sel_under_both W D p f t h, ← List.map_eq_flatMap]

theorem c16_unnest_elem_cond [Inhabited V] (p f : VarId) (t : Term V) (h : FlatWF p f t)
    (op : CmpOp) (k : V) :
    rows W D ⟨[.var p, .flatten f t], some (.cmp op (.flatten f t) (.lit k))⟩ =
      (D p).flatMap fun o => ((inner W t o).filter fun e => W.cmp op e k).map fun e => [o, e] := by
  simp only [rows, elem_cond_unbound W D p f t (.lit k) h op (fun _ => k) (fun _ _ => rfl),
    rows_of_pairs W D p f t h]

theorem c16_unnest_both_cond [Inhabited V] (p f : VarId) (t : Term V) (h : FlatWF p f t)
    (c : Cond V) (hc : c.noFlat = true) (hs : Cond.single p c) (op : CmpOp) (k : V) :
    rows W D ⟨[.var p, .flatten f t], some (.and c (.cmp op (.flatten f t) (.lit k)))⟩ =
      ((D p).filter fun o => denote W (constAsg o) c).flatMap fun o =>
        ((inner W t o).filter fun e => W.cmp op e k).map fun e => [o, e] := by
  have he : ∀ o, evalCond W D (.cmp op (.flatten f t) (.lit k)) [(p, o)] false =
      ((inner W t o).filter fun e => W.cmp op e k).map fun e => ([(f, e), (p, o)], false) := fun o => by
    have hrf : rightFirst ([(p, o)] : Bnd V) (.lit k) = false := rfl
    have hlit : ∀ β : Bnd V, evalTerm W D (.lit k) β = [(β, k)] := fun _ => rfl
    simp only [evalCond, hrf, Bool.false_eq_true, if_false, flat_under_parent W D p f t h o, hlit,
      List.flatMap_cons, List.flatMap_nil, List.append_nil]
    exact elem_cond_outs W f op k [(p, o)] _
  have hand : evalCond W D (.and c (.cmp op (.flatten f t) (.lit k))) [] false =
      ((D p).filter fun o => denote W (constAsg o) c).flatMap fun o =>
        ((inner W t o).filter fun e => W.cmp op e k).map fun e => ([(f, e), (p, o)], false) := by
    simp only [evalCond_and_false, cond_dist W D p c hc hs false, List.flatMap_assoc, singleOut,
      closedOut_flatMap, Bool.or_false, he, flatMap_ite]
  simp only [rows, hand, rows_of_pairs W D p f t h]

theorem c16_unnest_elem_vs_parent [Inhabited V] (p f : VarId) (t t2 : Term V) (h : FlatWF p f t)
    (h2 : FlatWF p f t2) (op : CmpOp) :
    rows W D ⟨[.var p, .flatten f t], some (.cmp op (.flatten f t) t2)⟩ =
      (D p).flatMap fun o =>
        ((inner W t o).filter fun e => W.cmp op e (termVal W (constAsg o) t2)).map fun e => [o, e] := by
  have hr : ∀ o e, evalTerm W D t2 [(f, e), (p, o)] = [([(f, e), (p, o)], termVal W (constAsg o) t2)] :=
    fun o e => term_closed_on W D t2 h2.noFlat _ _ fun v hv => by rw [h2.vars v hv, lk_under p f o e h.fresh]; rfl
  simp only [rows, elem_cond_unbound W D p f t t2 h op _ hr, rows_of_pairs W D p f t h]

theorem c16_nonempty_singleton (p f : VarId) (t : Term V) (h : FlatWF p f t)
    (hitems : ∀ o ∈ D p, W.items (termVal W (constAsg o) t) = [termVal W (constAsg o) t]) :
    rows W D ⟨[.var p, .flatten f t], none⟩ = (D p).map fun o => [o, termVal W (constAsg o) t] := by
  rw [c16_unnest_pair W D p f t h, List.map_eq_flatMap]
  exact flatMap_congr_mem fun o ho => by rw [inner, hitems o ho]; rfl

/-- **C16, completeness for every query with flatten nodes.**  Whatever the condition (conjunctions,
    disjunctions, negations at the leaves, sub-queries, comparisons between elements, parents and other
    variables) and whatever is selected: every assignment of the variables to members of their domains
    and of the flatten nodes to ELEMENTS OF THEIR PARENT'S COLLECTION (`CondOk`, `TermsOk`) that satisfies
    the condition contributes its row - no (parent, element) combination is lost. -/
theorem c16_unnest_complete_general (q : Query V) (c : Cond V) (hq : q.cond = some c)
    (hc : Cond.okF c = true) (hs : Terms.okF q.sel = true) (α : Asg V)
    (hadm : CondOk W D α c) (hsel : TermsOk W D α q.sel) (hden : denote W α c = true) :
    termsVal W α q.sel ∈ rows W D q := by
  obtain ⟨p, hp, hpe⟩ := (cond_sound_complete_f W D c hc).2 [] α false (ext_nil α) hadm (Or.inr hden)
  obtain ⟨s, hsm, hse⟩ := args_complete_f W D q.sel hs p.1 α hpe hsel
  have := (args_sound_f W D q.sel hs p.1 s.1 s.2 hsm α hse).2
  simp only [rows, hq, List.mem_flatMap, List.mem_map]
  exact ⟨p, hp, s, hsm, this.symm⟩

/-- **C16, soundness for every query with flatten nodes.**  Every row comes from ONE output binding - the
    parent, the element of each flatten node and the other variables are bound together - and under every
    admissible assignment that extends it the condition holds and the row is the selected values: elements
    stay correlated with their parents, nothing is invented. -/
theorem c16_unnest_sound_general (q : Query V) (c : Cond V) (hq : q.cond = some c)
    (hc : Cond.okF c = true) (hs : Terms.okF q.sel = true) (r : List V) (hr : r ∈ rows W D q) :
    ∃ β : Bnd V, ∀ α, CondOk W D α c → Ext β α → denote W α c = true ∧ r = termsVal W α q.sel := by
  simp only [rows, hq, List.mem_flatMap, List.mem_map] at hr
  obtain ⟨p, hp, s, hsm, rfl⟩ := hr
  refine ⟨s.1, ?_⟩
  intro α hadm hext
  have h2 := args_sound_f W D q.sel hs p.1 s.1 s.2 hsm α hext
  have hp2 : p.2 = false := evalCond_flag W D c hp
  have h1 := ((cond_sound_complete_f W D c hc).1 [] p.1 p.2 false hp).2 α hadm h2.1
  exact ⟨by rw [h1.2, hp2]; rfl, h2.2.symm⟩

/-- The element a flatten node is bound to IS an element of its operand's value (one output per element). -/
theorem c16_flatten_binds_an_element (id : VarId) (t : Term V) (ht : (Term.flatten id t).okF = true)
    (β β' : Bnd V) (e : V) (hfree : β.lookup id = none) (h : (β', e) ∈ evalTerm W D (.flatten id t) β) :
    β'.lookup id = some e ∧ ∀ α, Ext β' α → e ∈ W.items (termVal W α t) := by
  simp only [Term.okF, Bool.and_eq_true, Bool.not_eq_true', List.contains_eq_mem, decide_eq_false_iff_not] at ht
  rcases (mem_evalTerm_flatten W D).1 h with ⟨hl, _⟩ | ⟨_, p, hp, he, rfl⟩
  · cases hfree.symm.trans hl
  refine ⟨lookup_self, fun α hα => ?_⟩
  obtain ⟨hg, hval⟩ := term_out W D t ht.1 β p.1 p.2 hp
  rw [hval α ((ext_cons_fresh (hg.fresh hfree ht.2)).1 hα).2]
  exact he

/-- **C16 as an equivalence, for every query whose disjunctions bind the same ids on both sides.**
    A row is produced IF AND ONLY IF some assignment gives every variable a member of its domain and every
    flatten node an ELEMENT OF THE COLLECTION ITS OPERAND DENOTES UNDER THE SAME ASSIGNMENT (so elements
    are paired with their own parent), satisfies the condition, and the row is the selected values under
    it.  `Sh` says which ids are variables and which are flatten nodes (each with one operand). -/
theorem c16_unnest_rows_iff [Inhabited V] (Sh : Shape V) (q : Query V) (c : Cond V) (hq : q.cond = some c)
    (hc : Cond.okF c = true) (hs : Terms.okF q.sel = true) (hcs : Cond.shaped Sh c)
    (hss : Terms.shaped Sh q.sel) (hu : Cond.uniformB c) (r : List V) :
    r ∈ rows W D q ↔
      ∃ α : Asg V, CondOk W D α c ∧ TermsOk W D α q.sel ∧ denote W α c = true ∧ r = termsVal W α q.sel := by
  constructor
  · intro hr
    simp only [rows, hq, List.mem_flatMap, List.mem_map] at hr
    obtain ⟨p, hp, s, hsm, rfl⟩ := hr
    have hsc := (cond_sound_complete_f W D c hc).1 [] p.1 p.2 false hp
    have hp2 : p.2 = false := hsc.1 rfl
    have hadm1 : Adm W D Sh p.1 := cond_adm W D Sh c hc hcs [] p.1 p.2 false (adm_nil W D Sh) hp
    have hadm2 : Adm W D Sh s.1 := args_adm W D Sh q.sel hs hss p.1 s.1 s.2 hadm1 hsm
    have hsub := args_sub_f W D q.sel hs p.1 s.1 s.2 hsm
    have hp' : (p.1, false) ∈ evalCond W D c [] false := hp2 ▸ hp
    have hb1 : ∀ v ∈ c.binds, bound s.1 v = true := fun v hv =>
      bound_of_sub hsub (true_output_total_f W D Sh c hc hcs hu [] p.1 false (adm_nil W D Sh)
        hp' v hv)
    have hb2 := args_covers_f W D Sh q.sel hs hss p.1 s.1 s.2 hadm1 hsm
    have hext := ext_asgOf s.1
    have hok := condOk_of_bound W D Sh c hcs s.1 hadm2 hb1 (asgOf s.1) hext
    have h2 := args_sound_f W D q.sel hs p.1 s.1 s.2 hsm (asgOf s.1) hext
    have h1 := hsc.2 (asgOf s.1) hok h2.1
    exact ⟨asgOf s.1, hok, termsOk_of_bound W D Sh q.sel hss s.1 hadm2 hb2 (asgOf s.1) hext,
      by rw [h1.2, hp2]; rfl, h2.2.symm⟩
  · rintro ⟨α, hadm, hsel, hden, rfl⟩
    exact c16_unnest_complete_general W D q c hq hc hs α hadm hsel hden

/-- The hypotheses of `c16_unnest_rows_iff` are satisfiable:
    `set_of([p, e], e == 3 or contains(e, p))` with `e = flatten(p.xs)`. -/
example :
    let e : Term Nat := .flatten 1 (.attr "xs" (.var 0))
    let c : Cond Nat := .elseIf (.cmp .eq e (.lit 3)) (.pred false "contains" [e, .var 0])
    let Sh : Shape Nat := fun id => if id = 1 then some (.attr "xs" (.var 0)) else none
    Cond.okF c = true ∧ Terms.okF [.var 0, e] = true ∧ Cond.shaped Sh c ∧ Terms.shaped Sh [.var 0, e] ∧
      Cond.uniformB c := by
  refine ⟨by decide, by decide, ?_, ?_, ?_⟩
  · simp [Cond.shaped, Terms.shaped, Term.shaped]
  · simp [Terms.shaped, Term.shaped]
  · simp [Cond.uniformB, Cond.binds, Terms.binds, Term.binds]

theorem flatten_binds_self (id : VarId) (t : Term V) (β : Bnd V) :
    ∀ p ∈ evalTerm W D (.flatten id t) β, p.1.lookup id = some p.2 := by
  intro p hp
  rcases (mem_evalTerm_flatten W D).1 hp with ⟨hl, e⟩ | ⟨_, _, _, _, e⟩
  · exact e ▸ hl
  · exact e ▸ lookup_self

/-- **C16, the same flattened element used twice.**  Two arguments that are the SAME flatten node
    (`P(e, e)` with `e = flatten(p.items)`) are evaluated one after the other, the second under the
    binding the first one made: it is the same element, never a sibling - under every incoming binding. -/
theorem c16_same_element_twice (id : VarId) (t : Term V) (β : Bnd V) :
    evalArgs W D [.flatten id t, .flatten id t] β =
      (evalTerm W D (.flatten id t) β).map fun p => (p.1, [p.2, p.2]) := by
  have hself := flatten_binds_self W D id t β
  simp only [evalArgs]
  generalize evalTerm W D (.flatten id t) β = outs at hself ⊢
  induction outs with
  | nil => rfl
  | cons p ps ih =>
    have hp : p.1.lookup id = some p.2 := hself p List.mem_cons_self
    have hrest : ∀ q ∈ ps, q.1.lookup id = some q.2 := fun q hq => hself q (List.mem_cons_of_mem _ hq)
    rw [List.flatMap_cons, ih hrest, List.map_cons]
    simp [evalTerm, hp]

/-- ... so a predicate over two arguments taken from one flattened element is decided on `(e, e)`:
    one output per element (when false outputs are asked for), none that pairs an element with a sibling. -/
theorem c16_pred_same_element (inv : Bool) (name : String) (id : VarId) (t : Term V) (β : Bnd V) :
    evalCond W D (.pred inv name [.flatten id t, .flatten id t]) β true =
      (evalTerm W D (.flatten id t) β).map fun p => (p.1, W.truthy (W.fn name [p.2, p.2]) == inv) := by
  simp only [evalCond, c16_same_element_twice, Bool.or_true, if_true, List.flatMap_map]
  exact List.map_eq_flatMap.symm

end Eql
