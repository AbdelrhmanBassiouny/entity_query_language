/-
  C04 — a query's answer does not depend on what was evaluated before it.

  What an evaluation can leave behind, and why it cannot change a later answer:
   (1) the memoised, lazily consumed DOMAINS (`HashedIterable`): model `Iter.lean`.  The L1 semantics
       (`rows`, `runThe`, `ruleRows`, `rowsForAll`) is a function of the query and of what the domains
       yield, so with `c04_domain_independent` every later answer equals the fresh answer;
       `c04_dup_domain` is the clause about an object listed more than once (fix 4141bff).
   (2) DUPLICATE-TRACKING sets and RESULT CACHES on the expression nodes: `Lifecycle` transliterates
       `An.evaluate`/`The.evaluate`'s `finally: _reset_after_evaluation_(completed)` (fix 504ded8),
       then the iterator abandoned without being closed (repair R31) and the query that supplies
       another query's domain (repair R32).
       That a clean node state gives the fresh answer is the L1 semantics itself with caching off;
       with caching on it is C05's (partial) statement.  `c04_conj_any_state_partial` (L2 machine,
       `Machine.lean`, caching disabled) is partial: no duplicate check is reached in the conjunctive
       fragment; disjunctions, where duplicate tracking acts, are covered by the correspondence of
       the machine with the implementation only.
   (3) the user's collections and objects: the `World` and the raw domains are parameters of the
       model, not part of any state: no operation can change them (frame property by construction;
       on the implementation the harness snapshots them).
-/
import EqlModel.Props.C07
import EqlModel.SpecExec
import EqlModel.Eval
import EqlModel.Lemmas.MachineConj
import EqlModel.Gen.Tables

namespace Eql
variable {V : Type} [BEq V] [LawfulBEq V]

open Iter

/-- **Domains.** After any per-variable history of full evaluations, evaluations abandoned after k
    results and evaluations aborted by an exception, what the domains yield is what fresh domains yield. -/
theorem c04_domain_independent (W : World V) (raw : VarId → List V)
    (qv : VarId → V → Bool) (hist : VarId → List (Option Nat)) (q : Query V) :
    rows W (fun v => contents (runHistory (qv v) (init (raw v)) (hist v))) q =
      rows W (fun v => fresh [] (raw v)) q :=
  congrArg (rows W · q) (funext fun v => c07_contents_invariant (qv v) (hist v) (init (raw v)))

theorem fresh_eq_dedupFrom : ∀ (l seen seen' : List V), (∀ x, x ∈ seen ↔ x ∈ seen') →
    fresh seen l = dedupFrom seen' l := by
  intro l
  induction l with
  | nil => intro _ _ _; rfl
  | cons a as ih =>
    intro seen seen' h
    have hc : seen.contains a = seen'.contains a := by
      rw [Bool.eq_iff_iff, List.contains_iff_mem, List.contains_iff_mem]
      exact h a
    simp only [fresh, dedupFrom, hc]
    split
    · exact ih seen seen' h
    · rw [ih (seen ++ [a]) (a :: seen')]
      intro x
      simp only [List.mem_append, List.mem_cons, List.not_mem_nil, or_false, h x]
      exact or_comm

/-- **Duplicated objects.** What a domain yields is the supplied collection with every object
    listed once (first occurrence), on the first and on every later evaluation. -/
theorem c04_dup_domain (raw : List V) (q : V → Bool) (h : List (Option Nat)) :
    contents (runHistory q (init raw) h) = dedupFrom [] raw :=
  (c07_contents_invariant q h (init raw)).trans (fresh_eq_dedupFrom raw [] [] fun _ => Iff.rfl)

namespace Lifecycle

inductive CacheSt where
  | empty
  | complete       -- filled by passes that ran to the end
  | partialPass    -- holds coverage claims of a pass that did not run to the end
  deriving DecidableEq, Repr

structure NodeSt where
  dedupDirty : Bool := false
  caches : CacheSt := .empty
  deriving DecidableEq, Repr

inductive Ending where
  | completed | closedEarly | raised
  deriving DecidableEq, Repr

/-- While an evaluation runs it populates the duplicate-tracking sets and (with caching) the
    caches; a pass that stops early leaves coverage claims over an incomplete set of results. -/
def during (caching : Bool) (s : NodeSt) (e : Ending) : NodeSt :=
  { dedupDirty := true,
    caches := if !caching then s.caches
              else match e with
                | .completed => .complete
                | _ => .partialPass }

/-- `finally: self._reset_after_evaluation_(completed)`. -/
def resetAfter (s : NodeSt) (completed : Bool) : NodeSt :=
  { dedupDirty := false, caches := if completed then s.caches else .empty }

/-- One `evaluate()` call of `An` (exhausted, closed early, or an exception propagating) or `The`
    (returns, or raises NoSolutionFound / MultipleSolutionFound / a user exception). -/
def evaluate (caching : Bool) (s : NodeSt) (e : Ending) : NodeSt :=
  resetAfter (during caching s e) (e == .completed)

def Clean (s : NodeSt) : Prop := s.dedupDirty = false ∧ s.caches ≠ .partialPass

theorem clean_resetAfter (n : NodeSt) (b : Bool) (h : b = true → n.caches ≠ .partialPass) :
    Clean (resetAfter n b) := by
  cases b with
  | false => exact ⟨rfl, nofun⟩
  | true => exact ⟨rfl, h rfl⟩

theorem clean_reset_false (n : NodeSt) : Clean (resetAfter n false) := clean_resetAfter n false nofun

theorem clean_step (caching : Bool) (s : NodeSt) (e : Ending) (h : Clean s) : Clean (evaluate caching s e) := by
  refine clean_resetAfter _ _ fun he => ?_
  cases eq_of_beq he
  cases caching with
  | false => exact h.2
  | true => nofun

/-- After every history of evaluations — completed, closed early, or raised — the duplicate-tracking state
    is reset, and the caches are either those of completed passes or empty: never a cache that claims
    coverage of a pass that did not complete. -/
theorem c04_lifecycle_clean : ∀ (hist : List (Bool × Ending)),
    Clean (hist.foldl (fun s p => evaluate p.1 s p.2) {}) :=
  fun hist => List.foldlRecOn hist _ ⟨rfl, nofun⟩ fun s h p _ => clean_step p.1 s p.2 h

/-! #### Evaluations that are abandoned WITHOUT being closed

An `An` result iterator that is neither exhausted nor closed stays suspended: its `finally` block has not run, the
node state is what the partial pass left.  `An.evaluate` marks the query as running (`_running_evaluation_`) and a
later `evaluate()` that finds the mark first resets as after an incomplete pass (repair R31). -/

inductive Ending' where
  | completed | closedEarly | raised
  | suspended     -- k results taken, the iterator kept alive and never advanced again
  deriving DecidableEq, Repr

structure QSt where
  node : NodeSt := {}
  running : Bool := false
  deriving DecidableEq, Repr

/-- `if self._running_evaluation_ is not None: self._reset_after_evaluation_(completed=False)`. -/
def start (s : QSt) : NodeSt := if s.running then resetAfter s.node false else s.node

def duringQ (caching : Bool) (n : NodeSt) (e : Ending') : NodeSt :=
  { dedupDirty := true,
    caches := if !caching then n.caches
              else match e with
                | .completed => .complete
                | _ => .partialPass }

/-- One `An.evaluate()` call on a query object. -/
def evaluateQ (caching : Bool) (s : QSt) (e : Ending') : QSt :=
  let n := duringQ caching (start s) e
  match e with
  | .suspended => { node := n, running := true }                -- the `finally` block does not run
  | _ => { node := resetAfter n (e == .completed), running := false }

def Ready (s : QSt) : Prop := s.running = false → Clean s.node

theorem clean_start (s : QSt) (h : Ready s) : Clean (start s) := by
  unfold start
  cases hr : s.running with
  | false => exact h hr
  | true => exact clean_reset_false _

theorem clean_after (caching : Bool) (n : NodeSt) (e : Ending') (h : Clean n) :
    Clean (resetAfter (duringQ caching n e) (e == .completed)) := by
  refine clean_resetAfter _ _ fun he => ?_
  cases eq_of_beq he
  cases caching with
  | false => exact h.2
  | true => nofun

theorem ready_step (caching : Bool) (s : QSt) (e : Ending') (h : Ready s) : Ready (evaluateQ caching s e) := by
  cases e with
  | suspended => exact nofun
  | completed | closedEarly | raised => exact fun _ => clean_after caching _ _ (clean_start s h)

/-- **C04, life-cycle with suspended iterators.**  After every history of evaluations of a query object - run to the
    end, closed early, aborted by an exception, or ABANDONED WITHOUT BEING CLOSED - the next evaluation starts from a
    clean node state (no duplicate-tracking entries, no coverage claims of an incomplete pass). -/
theorem c04_lifecycle_clean_suspended (hist : List (Bool × Ending')) :
    Clean (start (hist.foldl (fun s p => evaluateQ p.1 s p.2) {})) :=
  clean_start _ (List.foldlRecOn hist _ (fun _ => ⟨rfl, nofun⟩) fun s h p _ => ready_step p.1 s p.2 h)

/-- Without the start-of-evaluation reset the statement is false: a suspended pass with caching on leaves coverage
    claims behind (the defect R31 repaired). -/
example : ¬ Clean (evaluateQ true {} .suspended).node := fun h => h.2 rfl

/-! #### A query that supplies a variable's domain (repair R32)

`y = let(T, domain=inner)`: the outer query evaluates `inner` on the way.  Two query objects, the nodes `o` only the
outer query reaches and the nodes `i` of the inner query (reached by both).  An evaluation marks every query it
evaluates as running; its start-of-evaluation reset and its final reset cover every node it reaches. -/

structure Sys where
  o : NodeSt := {}
  i : NodeSt := {}
  runO : Bool := false
  runI : Bool := false
  deriving DecidableEq, Repr

inductive Which where
  | outer | inner
  deriving DecidableEq, Repr

/-- What may happen to a query object: an evaluation with some ending, or the iterator of an earlier suspended
    evaluation being closed / finalised later (its `finally` block runs then; `mine`: its marks are still its own). -/
inductive SysOp where
  | eval (w : Which) (caching : Bool) (e : Ending')
  | closeOld (w : Which) (mine : Bool)
  deriving DecidableEq, Repr

def startSys (s : Sys) : Which → Sys
  | .outer => if s.runO || s.runI then { s with o := resetAfter s.o false, i := resetAfter s.i false } else s
  | .inner => if s.runI then { s with i := resetAfter s.i false } else s

def stepSys (s : Sys) : SysOp → Sys
  | .eval .outer caching e =>
      let s1 := startSys s .outer
      let o' := duringQ caching s1.o e
      let i' := duringQ caching s1.i e
      match e with
      | .suspended => { o := o', i := i', runO := true, runI := true }
      | _ => { o := resetAfter o' (e == .completed), i := resetAfter i' (e == .completed), runO := false, runI := false }
  | .eval .inner caching e =>
      let s1 := startSys s .inner
      let i' := duringQ caching s1.i e
      match e with
      | .suspended => { s1 with i := i', runI := true }
      | _ => { s1 with i := resetAfter i' (e == .completed), runI := false }
  | .closeOld .outer mine =>
      if mine then { o := resetAfter s.o false, i := resetAfter s.i false, runO := false, runI := false } else s
  | .closeOld .inner mine =>
      if mine then { s with i := resetAfter s.i false, runI := false } else s

def ReadySys (s : Sys) : Prop := (s.runO = false → Clean s.o) ∧ (s.runI = false → Clean s.i)

theorem clean_startSys (s : Sys) (h : ReadySys s) :
    (Clean (startSys s .outer).o ∧ Clean (startSys s .outer).i) ∧ Clean (startSys s .inner).i := by
  refine ⟨?_, ?_⟩
  · show Clean (if _ then _ else s).o ∧ Clean (if _ then _ else s).i
    split
    · exact ⟨clean_reset_false _, clean_reset_false _⟩
    · next hr =>
      rw [Bool.or_eq_true, not_or] at hr
      exact ⟨h.1 (eq_false_of_ne_true hr.1), h.2 (eq_false_of_ne_true hr.2)⟩
  · show Clean (if _ then _ else s).i
    split
    · exact clean_reset_false _
    · next hr => exact h.2 (eq_false_of_ne_true hr)

theorem readySys_step (s : Sys) (op : SysOp) (h : ReadySys s) : ReadySys (stepSys s op) := by
  have hc := clean_startSys s h
  cases op with
  | eval w caching e =>
    cases w with
    | outer =>
      cases e with
      | suspended => exact ⟨nofun, nofun⟩
      | completed | closedEarly | raised =>
        exact ⟨fun _ => clean_after caching _ _ hc.1.1, fun _ => clean_after caching _ _ hc.1.2⟩
    | inner =>
      -- an evaluation of the inner query touches neither the outer query's own nodes nor its mark
      have ho : (startSys s .inner).runO = false → Clean (startSys s .inner).o := by
        simp only [startSys]
        split <;> exact h.1
      cases e with
      | suspended => exact ⟨ho, nofun⟩
      | completed | closedEarly | raised => exact ⟨ho, fun _ => clean_after caching _ _ hc.2⟩
  | closeOld w mine =>
    cases mine with
    | false => cases w <;> exact h
    | true =>
      cases w with
      | outer => exact ⟨fun _ => clean_reset_false _, fun _ => clean_reset_false _⟩
      | inner => exact ⟨h.1, fun _ => clean_reset_false _⟩

/-- **C04, life-cycle with a query that supplies a domain.**  After every history of evaluations of the outer and of
    the inner query - run to the end, closed early, aborted, left suspended - and of late finalisations of suspended
    iterators, the next evaluation of EITHER query starts with every node it reaches clean. -/
theorem c04_lifecycle_clean_query_domain (hist : List SysOp) :
    let s := hist.foldl stepSys {}
    (Clean (startSys s .outer).o ∧ Clean (startSys s .outer).i) ∧ Clean (startSys s .inner).i :=
  clean_startSys _
    (List.foldlRecOn hist _ ⟨fun _ => ⟨rfl, nofun⟩, fun _ => ⟨rfl, nofun⟩⟩ fun s h p _ => readySys_step s p h)

/-- What R32 repaired: if the outer query's resets did not reach the inner query's nodes, a COMPLETED outer evaluation
    would leave them dirty (the inner query evaluated by itself afterwards returned too few rows). -/
example : ¬ Clean (duringQ false ({} : NodeSt) .completed) := fun h => nomatch h.1

end Lifecycle

/-- **Node state, L2, conjunctive fragment.**  With the result cache disabled, the stateful evaluator
    started from two arbitrary node states returns the same rows - those of the L1 evaluation. -/
theorem c04_conj_any_state_partial (W : World V) (D : VarId → List V) (P : Machine.Params V)
    (q : Query V) (c : Cond V) (hq : q.cond = some c) (hc : Machine.Cond.conj c = true)
    (hf : c.noFlat = true) (st₁ st₂ : Machine.St) :
    (Machine.rowsM W D P false q st₁).1 = (Machine.rowsM W D P false q st₂).1 ∧
    (Machine.rowsM W D P false q st₁).1 = rows W D q := by
  rw [Machine.rowsM_conj_off W D P q c hq hc hf st₁, Machine.rowsM_conj_off W D P q c hq hc hf st₂]
  exact ⟨rfl, rfl⟩

/-! ### Tie to the source (regenerated on every run, `Gen/Tables.lean`) -/

/-- The transliterated life-cycle: both entry points reset in a `finally`, `An.evaluate` resets at its start when a
    query it evaluates is marked as running, and the reset follows a variable's symbolic domain source. -/
theorem c04_lifecycle_tied :
    (Gen.anResetsInFinally && Gen.theResetsInFinally && Gen.anResetsAtStartWhenRunning && Gen.resetReachesDomainSources)
      = true := by decide

end Eql
