/-
  C07 — evaluation is demand-driven and consumes lazily supplied domains only as needed.
  (The same model carries C04's clauses about re-evaluation and duplicated domain objects.)

  Model: `EqlModel/Iter.lean`.
    c07_no_work_before_first   creating the result iterator (or closing it unstarted) changes nothing
    c07_contents_invariant     no evaluation, however it ends, changes what iterating the domain
                               will yield
  The CPS reading of generators (a `for` over a generator resumes it once per element; `close()`
  stops it at the suspended `yield`) is part of the trusted base and is measured by the harness
  with a logging iterator.
-/
import EqlModel.Iter

namespace Eql.Iter
variable {V : Type}

theorem yieldMemo_none (q : V → Bool) (memo acc : List V) :
    yieldMemo q memo none acc = ((memo.filter q).reverse ++ acc, none) := by
  induction memo generalizing acc with
  | nil => rfl
  | cons o os ih =>
    rw [yieldMemo, if_neg (by decide), List.filter_cons]
    cases q o with
    | true => exact (ih (o :: acc)).trans (by simp)
    | false => exact ih acc

theorem unseen_tail {a : V} {as seen : List V} (hn : (a :: as).Nodup) (hd : ∀ b ∈ a :: as, b ∉ seen) :
    ∀ b ∈ as, b ∉ seen ++ [a] := fun b hb hm =>
  (List.mem_append.1 hm).elim (hd b (List.mem_cons_of_mem _ hb))
    fun e => (List.nodup_cons.1 hn).1 (List.mem_singleton.1 e ▸ hb)

variable [BEq V]

/-- One pull, whatever becomes of the element: the state afterwards does not depend on whether it qualifies. -/
theorem pullRest_cons (q : V → Bool) (o : V) (os : List V) (need : Option Nat) (s : DomSt V) (acc : List V)
    (hne : (need == some 0) = false) :
    pullRest q (o :: os) need s acc =
      pullRest q os (if !s.memo.contains o && q o then need.map (· - 1) else need)
        { memo := if s.memo.contains o then s.memo else s.memo ++ [o], rest := os, log := s.log ++ [o] }
        (if !s.memo.contains o && q o then o :: acc else acc) := by
  rw [pullRest, hne, if_neg Bool.false_ne_true]
  cases s.memo.contains o with
  | true => rfl
  | false => cases q o <;> rfl

theorem pullRest_state (q : V → Bool) (rest : List V) (need : Option Nat) (s : DomSt V) (acc : List V) :
    (pullRest q rest need s acc).2.log ++ (pullRest q rest need s acc).2.rest = s.log ++ rest ∧
    contents (pullRest q rest need s acc).2 = s.memo ++ fresh s.memo rest := by
  induction rest generalizing need s acc with
  | nil => exact ⟨rfl, rfl⟩
  | cons o os ih =>
    cases hne : need == some 0 with
    | true => rw [pullRest, hne, if_pos rfl]; exact ⟨rfl, rfl⟩
    | false =>
      rw [pullRest_cons q o os need s acc hne, (ih ..).1, (ih ..).2, fresh]
      refine ⟨List.append_assoc .., ?_⟩
      cases s.memo.contains o with
      | true => rfl
      | false => exact List.append_assoc ..

theorem take_state (q : V → Bool) (k : Option Nat) (s : DomSt V) :
    (take q k s).2.log ++ (take q k s).2.rest = s.log ++ s.rest ∧ contents (take q k s).2 = contents s := by
  unfold take
  split
  · exact ⟨rfl, rfl⟩
  · exact pullRest_state ..

theorem runHistory_state (q : V → Bool) (h : List (Option Nat)) (s : DomSt V) :
    (runHistory q s h).log ++ (runHistory q s h).rest = s.log ++ s.rest ∧
    contents (runHistory q s h) = contents s :=
  List.foldlRecOn h (fun s k => (take q k s).2)
    (motive := fun s' => s'.log ++ s'.rest = s.log ++ s.rest ∧ contents s' = contents s) ⟨rfl, rfl⟩
    fun s' ih k _ => ⟨(take_state q k s').1.trans ih.1, (take_state q k s').2.trans ih.2⟩

theorem pullRest_none (q : V → Bool) (rest : List V) (s : DomSt V) (acc : List V) :
    (pullRest q rest none s acc).1 = acc.reverse ++ (fresh s.memo rest).filter q := by
  induction rest generalizing s acc with
  | nil => exact (List.append_nil _).symm
  | cons o os ih =>
    rw [pullRest_cons q o os none s acc rfl, fresh]
    cases s.memo.contains o with
    | true => exact ih ..
    | false =>
      show _ = acc.reverse ++ List.filter q (o :: fresh (s.memo ++ [o]) os)
      rw [List.filter_cons]
      cases q o with
      | true => exact (ih ..).trans (by simp)
      | false => exact ih ..

theorem take_full (q : V → Bool) (s : DomSt V) : (take q none s).1 = (contents s).filter q := by
  rw [take, if_neg (by decide)]
  simp only [yieldMemo_none, pullRest_none, contents, List.append_nil, List.reverse_reverse, List.filter_append]

variable [LawfulBEq V]

theorem c07_no_work_before_first (q : V → Bool) (s : DomSt V) : take q (some 0) s = ([], s) := rfl

/-- **No element is pulled twice**: after any history the log followed by the remainder is the
    original sequence. -/
theorem c07_pull_once (q : V → Bool) (dom : List V) : ∀ (h : List (Option Nat)),
    (runHistory q (init dom) h).log ++ (runHistory q (init dom) h).rest = dom :=
  fun h => (runHistory_state q h (init dom)).1

theorem c07_contents_invariant (q : V → Bool) : ∀ (h : List (Option Nat)) (s : DomSt V),
    contents (runHistory q s h) = contents s :=
  fun h s => (runHistory_state q h s).2

/-- **History independence of the domain.** After any history of partial and full evaluations a
    full evaluation returns exactly what it returns on a fresh domain: the distinct elements of
    the supplied collection that qualify, in order — also when an object is listed twice. -/
theorem c07_full_after_history (q : V → Bool) (dom : List V) (h : List (Option Nat)) :
    (take q none (runHistory q (init dom) h)).1 = (fresh [] dom).filter q := by
  rw [take_full, c07_contents_invariant]
  rfl

theorem fresh_nodup_disjoint : ∀ (l seen : List V), l.Nodup → (∀ a ∈ l, a ∉ seen) → fresh seen l = l := by
  intro l
  induction l with
  | nil => intro _ _ _; rfl
  | cons a as ih =>
    intro seen hn hd
    rw [fresh, if_neg (mt List.contains_iff_mem.1 (hd a List.mem_cons_self)),
      ih (seen ++ [a]) (List.nodup_cons.1 hn).2 (unseen_tail hn hd)]

theorem pullRest_prefix (q : V → Bool) (rest : List V) (n : Nat) (s : DomSt V) (acc : List V)
    (hd : ∀ a ∈ rest, a ∉ s.memo) (hn : rest.Nodup) :
    (pullRest q rest (some n) s acc).2.log = s.log ++ prefixFor q n rest ∧
    (pullRest q rest (some n) s acc).1 = acc.reverse ++ (prefixFor q n rest).filter q := by
  induction rest generalizing n s acc with
  | nil => cases n <;> exact ⟨(List.append_nil _).symm, (List.append_nil _).symm⟩
  | cons o os ih =>
    cases n with
    | zero => exact ⟨(List.append_nil _).symm, (List.append_nil _).symm⟩
    | succ n =>
      have ho : s.memo.contains o = false :=
        Bool.eq_false_iff.2 (mt List.contains_iff_mem.1 (hd o List.mem_cons_self))
      have hd' := unseen_tail hn hd
      have hn' := (List.nodup_cons.1 hn).2
      rw [pullRest_cons q o os _ s acc rfl, ho, prefixFor, List.filter_cons]
      cases q o with
      | true =>
        obtain ⟨h1, h2⟩ := ih n ⟨s.memo ++ [o], os, s.log ++ [o]⟩ (o :: acc) hd' hn'
        exact ⟨h1.trans (List.append_assoc ..), h2.trans (by rw [List.reverse_cons, List.append_assoc]; rfl)⟩
      | false =>
        obtain ⟨h1, h2⟩ := ih (n + 1) ⟨s.memo ++ [o], os, s.log ++ [o]⟩ acc hd' hn'
        exact ⟨h1.trans (List.append_assoc ..), h2⟩

/-- **C07.** From a fresh one-shot domain of distinct objects, when the k-th result is delivered
    exactly the prefix ending at the k-th qualifying element has been pulled, and the delivered
    results are the qualifying elements of that prefix. -/
theorem c07_prefix (q : V → Bool) (dom : List V) (hn : dom.Nodup) (k : Nat) :
    (take q (some k) (init dom)).2.log = prefixFor q k dom ∧
    (take q (some k) (init dom)).1 = (prefixFor q k dom).filter q := by
  cases k with
  | zero => rw [c07_no_work_before_first, prefixFor]; exact ⟨rfl, rfl⟩
  | succ k =>
    rw [take, if_neg (by simp)]
    exact pullRest_prefix q dom (k + 1) (init dom) [] (fun _ _ => List.not_mem_nil) hn

/-- Non-vacuity: 5 elements, the 2nd result is the 4th element: exactly 4 pulls. -/
example : (take (fun n : Nat => n % 2 == 0) (some 2) (init [1, 2, 3, 4, 6])).2.log = [1, 2, 3, 4] := by decide

end Eql.Iter
