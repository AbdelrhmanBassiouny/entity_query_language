/-
  C12 — rows of a rule tree over ANY number of variables.

  `c12_rule_tree_rows` (Props/C12.lean) is the list-level statement for rules over one variable.  Here the trees
  are those the generator writes ("branch-closed", `RTree.entryOk VS`): every branch that is reached with
  unbound variables - the base rule and the alternatives on its alternative chain - has conditions that mention
  exactly the variables VS (uniform disjunctions, no flatten); a refinement, which is reached under the total
  bindings its parent made, may mention any subset and hold any sub-tree.  Such a tree is evaluated as a
  condition - the disjunction (`elseIf`) of the conditions on its alternative chain (`RTree.cond`); refinements,
  reached closed (`rt_closed`), only choose the conclusion: the outputs of `evalR` are, in order, those of
  `evalCond` on `t.cond`, each true one carrying `RTree.concl` (`evalR_eq_cond`).  Hence soundness and
  completeness of `evalR` against `RTree.holds` / `RTree.concl` are those of `evalCond`
  (`rtree_sound_complete`): every output speaks for exactly the admissible assignments that extend it, true
  outputs bind all of VS, every admissible assignment is covered.  The rows theorems
  (`c12_rule_tree_rows_multi`, `c12_program_rows`) are about the instances as a set.
-/
import EqlModel.Props.C12
import EqlModel.NatWorld

namespace Eql
variable {V : Type}
variable (W : World V) (D : VarId → List V)

def RTree.entryOk (VS : List VarId) : RTree V → Prop
  | .leaf _ c _ => c.noFlat = true ∧ Cond.uniformOr c ∧ (∀ v, v ∈ c.vars ↔ v ∈ VS)
  | .exceptIf l r => l.entryOk VS ∧ r.noFlat = true ∧ (∀ v ∈ r.vars, v ∈ VS)
  | .alternative l r => l.entryOk VS ∧ r.entryOk VS

/-- The condition a rule tree stands for: a refinement only chooses the conclusion. -/
def RTree.cond : RTree V → Cond V
  | .leaf _ c _ => c
  | .exceptIf l _ => l.cond
  | .alternative l r => .elseIf l.cond r.cond

theorem denote_cond (α : Asg V) : ∀ (t : RTree V), denote W α t.cond = t.holds W α
  | .leaf _ _ _ => rfl
  | .exceptIf l _ => denote_cond α l
  | .alternative l r => by simp only [RTree.cond, denote, RTree.holds, denote_cond α l, denote_cond α r]

def RTree.plain (VS : List VarId) (t : RTree V) : Prop := t.noFlat = true ∧ ∀ v ∈ t.vars, v ∈ VS

theorem plain_node (VS : List VarId) (l r : RTree V) (hl : l.plain VS) (hr : r.plain VS) :
    (RTree.exceptIf l r).plain VS ∧ (RTree.alternative l r).plain VS :=
  have hf : (l.noFlat && r.noFlat) = true := by rw [hl.1, hr.1]; rfl
  have hv : ∀ v ∈ l.vars ++ r.vars, v ∈ VS := fun v hv => (List.mem_append.1 hv).elim (hl.2 v) (hr.2 v)
  ⟨⟨hf, hv⟩, ⟨hf, hv⟩⟩

theorem entryOk_plain (VS : List VarId) : ∀ (t : RTree V), t.entryOk VS → t.plain VS
  | .leaf _ _ _, h => ⟨h.1, fun v hv => (h.2.2 v).1 hv⟩
  | .exceptIf l r, h => (plain_node VS l r (entryOk_plain VS l h.1) h.2).1
  | .alternative l r, h => (plain_node VS l r (entryOk_plain VS l h.1) (entryOk_plain VS r h.2)).2

theorem entryOk_cond (VS : List VarId) : ∀ (t : RTree V), t.entryOk VS →
    t.cond.noFlat = true ∧ Cond.uniformOr t.cond ∧ ∀ v, v ∈ t.cond.vars ↔ v ∈ VS
  | .leaf _ _ _, h => h
  | .exceptIf l _, h => entryOk_cond VS l h.1
  | .alternative l r, h =>
    have ⟨fl, ul, vl⟩ := entryOk_cond VS l h.1
    have ⟨fr, ur, vr⟩ := entryOk_cond VS r h.2
    ⟨Bool.and_eq_true_iff.2 ⟨fl, fr⟩, ⟨fun v => (vl v).trans (vr v).symm, ul, ur⟩,
      fun v => List.mem_append.trans ⟨fun h => h.elim (vl v).1 (vr v).1, fun h => Or.inl ((vl v).2 h)⟩⟩

theorem holds_concl_congr (α α' : Asg V) : ∀ (t : RTree V), t.noFlat = true → (∀ v ∈ t.vars, α v = α' v) →
    t.holds W α = t.holds W α' ∧ t.concl W α = t.concl W α' := by
  intro t
  induction t with
  | leaf i c tag =>
    intro hf h
    simp only [RTree.holds, RTree.concl, denote_congr W c hf α α' h, and_self]
  | exceptIf l r ihl ihr | alternative l r ihl ihr =>
    intro hf h
    simp only [RTree.noFlat, Bool.and_eq_true] at hf
    have hl := ihl hf.1 (fun v hv => h v (List.mem_append_left _ hv))
    have hr := ihr hf.2 (fun v hv => h v (List.mem_append_right _ hv))
    simp only [RTree.holds, RTree.concl, hl.1, hl.2, hr.1, hr.2, and_self]

/-- The surface programs the theorem covers.  `entry`: the blocks of this level are reached with
    unbound variables (alternatives of the base rule, and alternatives written inside those) - their
    conditions mention exactly VS and have uniform disjunctions; a refinement, and everything written
    inside it, is reached under total bindings and may mention any subset of VS. -/
def SRule.okS (VS : List VarId) : Bool → SRule V → Prop
  | _, .nil => True
  | entry, .cons kind c _ inner rest =>
      c.noFlat = true ∧ (∀ v ∈ c.vars, v ∈ VS) ∧
      (match kind with
        | .ref => inner.okS VS false
        | .alt => (entry = true → Cond.uniformOr c ∧ ∀ v ∈ VS, v ∈ c.vars) ∧ inner.okS VS entry) ∧
      rest.okS VS entry

theorem assemble_plain (VS : List VarId) (X : RTree V) (refs alts : List (RTree V)) (hX : X.plain VS)
    (hr : ∀ r ∈ refs, r.plain VS) (ha : ∀ a ∈ alts, a.plain VS) : (assemble X refs alts).plain VS :=
  assemble_induction hX (fun l hl r h => (plain_node VS l r hl (hr r h)).1)
    (fun l hl a h => (plain_node VS l a hl (ha a h)).2)

theorem assemble_entryOk (VS : List VarId) (X : RTree V) (refs alts : List (RTree V)) (hX : X.entryOk VS)
    (hr : ∀ r ∈ refs, r.plain VS) (ha : ∀ a ∈ alts, a.entryOk VS) : (assemble X refs alts).entryOk VS :=
  assemble_induction hX (fun _ hl r h => ⟨hl, hr r h⟩) (fun _ hl a h => ⟨hl, ha a h⟩)

theorem expKids_ok (VS : List VarId) : ∀ (kids : SRule V) (entry : Bool) (next : Nat), kids.okS VS entry →
    (∀ r ∈ (expKids kids next).1, r.plain VS) ∧
    (∀ a ∈ (expKids kids next).2.1, a.plain VS ∧ (entry = true → a.entryOk VS)) := by
  intro kids
  induction kids with
  | nil => intro entry next _; exact ⟨fun _ h => (nomatch h), fun _ h => (nomatch h)⟩
  | cons kind c tag inner rest ihi ihr =>
    intro entry next h
    obtain ⟨hf, hv, hk, hrest⟩ := h
    have hr := ihr entry (expKids inner (next + 1)).2.2 hrest
    have hleafP : (RTree.leaf next c tag : RTree V).plain VS := ⟨hf, hv⟩
    cases kind with
    | ref =>
      have hi := ihi false (next + 1) hk
      exact ⟨List.forall_mem_cons.2 ⟨assemble_plain VS _ _ _ hleafP hi.1 (fun a ha => (hi.2 a ha).1), hr.1⟩, hr.2⟩
    | alt =>
      have hi := ihi entry (next + 1) hk.2
      refine ⟨hr.1, List.forall_mem_cons.2
        ⟨⟨assemble_plain VS _ _ _ hleafP hi.1 (fun a ha => (hi.2 a ha).1), fun he => ?_⟩, hr.2⟩⟩
      obtain ⟨hu, hall⟩ := hk.1 he
      exact assemble_entryOk VS _ _ _ ⟨hf, hu, fun v => ⟨hv v, hall v⟩⟩ hi.1 (fun a ha => (hi.2 a ha).2 he)

section
variable [Inhabited V]

theorem rtree_true_output (VS : List VarId) (t : RTree V) (hok : t.entryOk VS) (β : Bnd V) (hb : BOk D β)
    (ywf : Bool) (p : Bnd V × Bool) (hp : p ∈ evalCond W D t.cond β ywf) (h2 : p.2 = false) :
    (∀ v ∈ VS, bound p.1 v = true) ∧ (∀ v ∈ VS, asgOf p.1 v ∈ D v) ∧ Ext β (asgOf p.1) ∧
      t.holds W (asgOf p.1) = true := by
  obtain ⟨hf, hu, hvs⟩ := entryOk_cond VS t hok
  obtain ⟨h1, h3, h4, h5⟩ := true_output_asg W D t.cond hf hu β p.1 ywf hb (h2 ▸ hp)
  exact ⟨fun v hv => h1 v ((hvs v).2 hv), fun v hv => h3 v ((hvs v).2 hv), h4, denote_cond W _ t ▸ h5⟩

/-- An output of the tree's condition with the conclusion the tree selects under it. -/
def decoR (t : RTree V) (p : Bnd V × Bool) : Bnd V × Bool × Option Nat :=
  (p.1, p.2, if p.2 then none else t.concl W (asgOf p.1))

theorem evalR_eq_cond (VS : List VarId) : ∀ (t : RTree V), t.entryOk VS → ∀ (β : Bnd V) (ywf : Bool),
    BOk D β → evalR W D t β ywf = (evalCond W D t.cond β ywf).map (decoR W t) := by
  intro t
  induction t with
  | leaf i c tag =>
    intro hok β ywf hb
    refine List.map_congr_left fun p hp => ?_
    obtain ⟨β', f⟩ := p
    cases f
    · have hd : denote W (asgOf β') c = true := (rtree_true_output W D VS _ hok β hb ywf _ hp rfl).2.2.2
      simp only [decoR, RTree.concl, hd, if_true, Bool.false_eq_true, if_false]
    · rfl
  | exceptIf l r ihl _ =>
    intro hok β ywf hb
    obtain ⟨hl, hrf, hrv⟩ := hok
    simp only [evalR, ihl hl β ywf hb, List.flatMap_map, RTree.cond]
    rw [List.map_eq_flatMap]
    refine flatMap_congr_mem fun p hp => ?_
    obtain ⟨β', f⟩ := p
    cases f
    · -- a true output binds every variable: the refinement yields its one closed output
      obtain ⟨htot, _, _, hd⟩ := rtree_true_output W D VS l hl β hb ywf _ hp rfl
      have hr := rt_closed W D r hrf β' (asgOf β') false (ext_asgOf β') (fun v hv => htot v (hrv v hv))
      simp only [decoR, Bool.false_eq_true, if_false, hr, RTree.concl, hd, if_true]
      cases r.holds W (asgOf β') <;> rfl
    · -- a false output is passed on (there is one only when false outputs were asked for)
      cases ywf
      · cases evalCond_flag W D l.cond hp
      · rfl
  | alternative l r ihl ihr =>
    intro hok β ywf hb
    obtain ⟨hl, hr⟩ := hok
    obtain ⟨hlf, _, hlv⟩ := entryOk_cond VS l hl
    -- the right branch where the left one holds under no admissible assignment
    have key : ∀ (β1 : Bnd V), BOk D β1 → (∀ α, (∀ v ∈ VS, α v ∈ D v) → Ext β1 α → l.holds W α = false) →
        evalR W D r β1 ywf = (evalCond W D r.cond β1 ywf).map (decoR W (.alternative l r)) := by
      intro β1 hb1 hno
      rw [ihr hr β1 ywf hb1]
      refine List.map_congr_left fun q hq => ?_
      obtain ⟨β', f⟩ := q
      cases f
      · obtain ⟨_, hadm, hext, _⟩ := rtree_true_output W D VS r hr β1 hb1 ywf _ hq rfl
        simp only [decoR, RTree.concl, hno _ hadm hext, Bool.false_eq_true, if_false]
      · rfl
    cases hemp : (evalCond W D l.cond β true).isEmpty
    · simp only [evalR, ihl hl β true hb, RTree.cond, evalCond, List.isEmpty_map, hemp, Bool.false_eq_true, if_false,
        List.flatMap_map, List.map_flatMap]
      refine flatMap_congr_mem fun p hp => ?_
      obtain ⟨β', f⟩ := p
      cases f
      · have hd := (rtree_true_output W D VS l hl β hb true _ hp rfl).2.2.2
        simp only [decoR, Bool.false_eq_true, if_false, RTree.concl, hd, if_true, List.map_cons, List.map_nil]
      · -- a false output of the left branch speaks for every admissible assignment that extends it
        refine key β' (cond_bok W D l.cond hlf β β' true true hb hp) fun α hadm hext => ?_
        rw [← denote_cond]
        exact (cond_sound W D l.cond hlf β β' true true hp α (fun v hv => hadm v ((hlv v).1 hv)) hext).2
    · -- the left branch yields nothing: it would have an output for an assignment under which it held
      simp only [evalR, ihl hl β true hb, RTree.cond, evalCond, List.isEmpty_map, hemp, if_true]
      refine key β hb fun α hadm hext => Bool.eq_false_iff.2 fun hh => ?_
      rw [← denote_cond] at hh
      obtain ⟨p, hp, _⟩ := cond_complete W D l.cond hlf β α true hext (fun v hv => hadm v ((hlv v).1 hv)) (Or.inr hh)
      rw [List.isEmpty_iff.1 hemp] at hp
      cases hp

theorem ruleRows_entryOk (VS : List VarId) (t : RTree V) (hok : t.entryOk VS) (args : List (Term V))
    (hfa : Terms.noFlat args = true) (hva : ∀ v ∈ Terms.vars args, v ∈ VS) :
    ruleRows W D t args = (evalCond W D t.cond [] false).filterMap fun p =>
      (t.concl W (asgOf p.1)).map fun tag => (tag, termsVal W (asgOf p.1) args) := by
  rw [ruleRows, evalR_eq_cond W D VS t hok [] false (bok_nil D), List.flatMap_map, filterMap_eq_flatMap]
  refine flatMap_congr_mem fun p hp => ?_
  have h2 := evalCond_flag W D t.cond hp
  -- a true output binds all of `VS`: the argument expressions are closed
  have htot := (rtree_true_output W D VS t hok [] (bok_nil D) false p hp h2).1
  simp only [decoR, h2, Bool.false_eq_true, if_false,
    args_closed W D args hfa p.1 (asgOf p.1) (ext_asgOf p.1) fun v hv => htot v (hva v hv)]
  cases t.concl W (asgOf p.1) <;> rfl

end

variable [BEq V] [LawfulBEq V] [Inhabited V]

/-- What one output of a rule tree says. -/
def ROutOk (VS : List VarId) (t : RTree V) (β : Bnd V) (ywf : Bool) (out : Bnd V × Bool × Option Nat) : Prop :=
  BOk D out.1 ∧ (ywf = false → out.2.1 = false) ∧ (out.2.1 = false → ∀ v ∈ VS, bound out.1 v = true) ∧
  ∀ α, (∀ v ∈ VS, α v ∈ D v) → Ext out.1 α →
    Ext β α ∧ t.holds W α = !out.2.1 ∧ (out.2.1 = false → out.2.2 = t.concl W α)

theorem rtree_sound_complete (VS : List VarId) : ∀ (t : RTree V), t.entryOk VS →
    ∀ (β : Bnd V) (ywf : Bool), BOk D β →
    (∀ out ∈ evalR W D t β ywf, ROutOk W D VS t β ywf out) ∧
    (∀ α, (∀ v ∈ VS, α v ∈ D v) → Ext β α → (ywf = true ∨ t.holds W α = true) →
      ∃ out ∈ evalR W D t β ywf, Ext out.1 α) := by
  intro t hok β ywf hb
  obtain ⟨hf, hu, hvs⟩ := entryOk_cond VS t hok
  rw [evalR_eq_cond W D VS t hok β ywf hb]
  refine ⟨?_, ?_⟩
  · intro out hout
    obtain ⟨p, hp, rfl⟩ := List.mem_map.1 hout
    refine ⟨cond_bok W D t.cond hf β p.1 p.2 ywf hb hp, fun hy => evalCond_flag W D t.cond (hy ▸ hp),
      fun h2 => (rtree_true_output W D VS t hok β hb ywf p hp h2).1, ?_⟩
    intro α hadm hext
    have h := cond_sound W D t.cond hf β p.1 p.2 ywf hp α (fun v hv => hadm v ((hvs v).1 hv)) hext
    rw [denote_cond] at h
    refine ⟨h.1, h.2, fun h2 => ?_⟩
    have h2' : p.2 = false := h2
    have htot := (rtree_true_output W D VS t hok β hb ywf p hp h2').1
    have hpl := entryOk_plain VS t hok
    simp only [decoR, h2', Bool.false_eq_true, if_false]
    exact (holds_concl_congr W _ _ t hpl.1
      (fun v hv => ext_agree (ext_asgOf p.1) hext (htot v (hpl.2 v hv)))).2
  · intro α hadm hext hy
    rw [← denote_cond] at hy
    obtain ⟨p, hp, hpe⟩ := cond_complete W D t.cond hf β α ywf hext (fun v hv => hadm v ((hvs v).1 hv)) hy
    exact ⟨decoR W t p, List.mem_map.2 ⟨p, hp, rfl⟩, hpe⟩

/-- **C12 (rows, any number of variables).**  The instances a branch-closed rule tree yields are
    exactly the (conclusion, argument values) of the admissible assignments on which the tree selects
    a conclusion: `RTree.concl` - the refinement's conclusion in place of the refined one where the
    refinement fires, an alternative's only where the branches before it did not fire. -/
theorem c12_rule_tree_rows_multi (VS : List VarId) (t : RTree V) (hok : t.entryOk VS)
    (args : List (Term V)) (hfa : Terms.noFlat args = true) (hva : ∀ v ∈ Terms.vars args, v ∈ VS)
    (tag : Nat) (vals : List V) :
    (tag, vals) ∈ ruleRows W D t args ↔
      ∃ α, (∀ v ∈ VS, α v ∈ D v) ∧ t.concl W α = some tag ∧ vals = termsVal W α args := by
  obtain ⟨hf, _, hvs⟩ := entryOk_cond VS t hok
  rw [ruleRows_entryOk W D VS t hok args hfa hva, List.mem_filterMap]
  constructor
  · rintro ⟨p, hp, he⟩
    obtain ⟨_, hadm, _, _⟩ := rtree_true_output W D VS t hok [] (bok_nil D) false p hp (evalCond_flag W D t.cond hp)
    obtain ⟨tg, hc, he⟩ := Option.map_eq_some_iff.1 he
    cases he
    exact ⟨asgOf p.1, hadm, hc, rfl⟩
  · rintro ⟨α, hadm, hc, rfl⟩
    have hh : denote W α t.cond = true := by rw [denote_cond, holds_eq_isSome, hc]; rfl
    obtain ⟨β', hp, hext⟩ := cond_complete_true W D t.cond hf [] α (ext_nil α) (fun v hv => hadm v ((hvs v).1 hv)) hh
    have htot := (rtree_true_output W D VS t hok [] (bok_nil D) false _ hp rfl).1
    have hag : ∀ v ∈ VS, asgOf β' v = α v := fun v hv => ext_agree (ext_asgOf β') hext (htot v hv)
    have hpl := entryOk_plain VS t hok
    refine ⟨_, hp, ?_⟩
    rw [(holds_concl_congr W _ α t hpl.1 fun v hv => hag v (hpl.2 v hv)).2, hc,
      termsVal_congr W args hfa _ α fun v hv => hag v (hva v hv)]
    rfl

/-- **C12, from the program to the instances.**  For a rule written with `Add` conclusions,
    `refinement` and `alternative` blocks nested to any depth - base rule and the alternatives on its
    chain mentioning every variable, refinements any subset - the instances `infer(...)` yields from
    the tree that `buildRule`, the transliteration of the library's construction, builds are exactly the (conclusion, argument values) that
    ripple-down rules (`fireRule`) prescribe for the admissible assignments, over any number of
    variables. -/
theorem c12_program_rows (VS : List VarId) (c0 : Cond V) (tag0 : Nat) (kids : SRule V)
    (hf0 : c0.noFlat = true) (hu0 : Cond.uniformOr c0) (hv0 : ∀ v, v ∈ c0.vars ↔ v ∈ VS)
    (hk : kids.okS VS true)
    (args : List (Term V)) (hfa : Terms.noFlat args = true) (hva : ∀ v ∈ Terms.vars args, v ∈ VS)
    (tag : Nat) (vals : List V) :
    (tag, vals) ∈ ruleRows W D (buildRule c0 tag0 kids) args ↔
      ∃ α, (∀ v ∈ VS, α v ∈ D v) ∧ fireRule W α c0 tag0 kids = some tag ∧ vals = termsVal W α args := by
  have hok : (expected c0 tag0 kids).entryOk VS := by
    have h := expKids_ok VS kids true 1 hk
    have hleaf : (RTree.leaf 0 c0 tag0 : RTree V).entryOk VS := ⟨hf0, hu0, hv0⟩
    exact assemble_entryOk VS _ _ _ hleaf h.1 (fun a ha => (h.2 a ha).2 rfl)
  rw [c12_build_expected, c12_rule_tree_rows_multi W D VS _ hok args hfa hva]
  simp only [c12_expected_fire]

/-- Non-vacuity: a two-variable rule `x < y => 0`, refinement `y >= 3 => 1` (a subset of the variables),
    alternative `x > y => 2` meets the hypotheses of `c12_program_rows` … -/
example :
    SRule.okS (V := Nat) [0, 1] true
      (.cons .ref (.cmp .ge (.var 1) (.lit 3)) 1 .nil (.cons .alt (.cmp .gt (.var 0) (.var 1)) 2 .nil .nil)) := by
  simp [SRule.okS, Cond.noFlat, Term.noFlat, Cond.vars, Term.vars, Cond.uniformOr]

/-- … and its instances are neither empty nor everything: pairs with `x = y` produce nothing, the
    refinement replaces the base conclusion exactly where `y >= 3`. -/
example :
    ruleRows natWorld (fun _ => [1, 2, 3])
      (buildRule (.cmp .lt (.var 0) (.var 1)) 0
        (.cons .ref (.cmp .ge (.var 1) (.lit 3)) 1 .nil (.cons .alt (.cmp .gt (.var 0) (.var 1)) 2 .nil .nil)))
      [.var 0, .var 1] =
    [(0, [1, 2]), (1, [1, 3]), (2, [2, 1]), (1, [2, 3]), (2, [3, 1]), (2, [3, 2])] := by decide +kernel

end Eql
