/-
  C18 — meaning-preserving rewrites of a query do not change its result set.

  `Rw` is the rewrite relation generated by: swapping the operands of and_/or_; re-associating
  chains (and_(a,b,c) is the left fold `chain`, `a & (b & c)` the right-nested form); mirroring a
  comparison (a < b ↦ b > a, a literal on either side); contains(c, i) ↦ in_(i, c); closed under
  the connectives, reflexivity, symmetry and transitivity (= every composition).
    rw_sdenote          a rewrite does not change the truth of the condition under any assignment
    c18_rows_invariant  ... hence not the set of rows (via C02/C03: different code paths —
                        operand enumerated first, chain shape — meet the same specification)
    c18_chain_and / c18_chain_or   and_(c, d1, ..., dn) / several conditions passed to `entity`
                        (`chained_logic`, a left fold) denote the conjunction of all; likewise or_
    c18_selection       another choice/order of selected expressions projects the same assignments
    c18_domain_perm     permuting the elements of a domain (more generally: keeping its members) does
                        not change the set of rows
  Declaration order only influences node ids, which the L1 semantics does not read at all.
-/
import EqlModel.Props.C03
import EqlModel.NatWorld

namespace Eql
variable {V : Type}
variable (W : World V) (D : VarId → List V)

def SurfOp.mirrorOp : SurfOp → SurfOp := SurfOp.mirror

inductive Rw : SCond V → SCond V → Prop where
  | refl (c) : Rw c c
  | symm {c d} : Rw c d → Rw d c
  | trans {c d e} : Rw c d → Rw d e → Rw c e
  | and_comm (a b) : Rw (.and2 a b) (.and2 b a)
  | or_comm (a b) : Rw (.or2 a b) (.or2 b a)
  | and_assoc (a b c) : Rw (.and2 (.and2 a b) c) (.and2 a (.and2 b c))
  | or_assoc (a b c) : Rw (.or2 (.or2 a b) c) (.or2 a (.or2 b c))
  | mirror (op l r) : Rw (.cmp op l r) (.cmp op.mirror r l)
  | contains_in (c i) : Rw (.contains c i) (.in_ i c)
  | and_congr {a a' b b'} : Rw a a' → Rw b b' → Rw (.and2 a b) (.and2 a' b')
  | or_congr {a a' b b'} : Rw a a' → Rw b b' → Rw (.or2 a b) (.or2 a' b')
  | not_congr {a a'} : Rw a a' → Rw (.not a) (.not a')

theorem rw_sdenote (hW : W.Lawful) (α : Asg V) {c d : SCond V} (h : Rw c d) :
    sdenote W α c = sdenote W α d := by
  induction h with
  | refl c => rfl
  | symm _ ih => exact ih.symm
  | trans _ _ ih1 ih2 => exact ih1.trans ih2
  | and_comm a b => exact Bool.and_comm ..
  | or_comm a b => exact Bool.or_comm ..
  | and_assoc a b c => exact Bool.and_assoc ..
  | or_assoc a b c => exact Bool.or_assoc ..
  | mirror op l r => exact (applySurf_mirror W hW op _ _).symm
  | contains_in c i => rfl
  | and_congr _ _ ih1 ih2 | or_congr _ _ ih1 ih2 => simp only [sdenote, ih1, ih2]
  | not_congr _ ih => exact congrArg not ih

theorem rw_vars_perm {c d : SCond V} (h : Rw c d) : c.vars.Perm d.vars := by
  induction h with
  | refl c => exact .refl _
  | symm _ ih => exact ih.symm
  | trans _ _ ih1 ih2 => exact ih1.trans ih2
  | and_comm a b | or_comm a b | mirror op l r | contains_in c i => exact List.perm_append_comm
  | and_assoc a b c | or_assoc a b c => exact .of_eq (List.append_assoc ..)
  | and_congr _ _ ih1 ih2 | or_congr _ _ ih1 ih2 => exact ih1.append ih2
  | not_congr _ ih => exact ih

theorem rw_noFlat {c d : SCond V} (h : Rw c d) : c.noFlat = d.noFlat := by
  induction h with
  | refl c => rfl
  | symm _ ih => exact ih.symm
  | trans _ _ ih1 ih2 => exact ih1.trans ih2
  | and_comm a b | or_comm a b | mirror op l r | contains_in c i => exact Bool.and_comm ..
  | and_assoc a b c | or_assoc a b c => exact Bool.and_assoc ..
  | and_congr _ _ ih1 ih2 | or_congr _ _ ih1 ih2 => simp only [SCond.noFlat, ih1, ih2]
  | not_congr _ ih => exact ih

theorem c18_rows_invariant [Inhabited V] (hW : W.Lawful) (sel : List (Term V)) {sc sc' : SCond V}
    (h : Rw sc sc') (hfs : Terms.noFlat sel = true) (hfc : sc.noFlat = true)
    (hne : ∀ v ∈ sc.vars, v ∉ Terms.vars sel → D v ≠ []) (r : List V) :
    r ∈ rows W D ⟨sel, some (build sc)⟩ ↔ r ∈ rows W D ⟨sel, some (build sc')⟩ := by
  have hp := rw_vars_perm h
  rw [c03_rows_iff W D hW sel sc hfs hfc hne r,
    c03_rows_iff W D hW sel sc' hfs (rw_noFlat h ▸ hfc) (fun v hv => hne v (hp.mem_iff.2 hv)) r]
  refine exists_congr fun α => and_congr (forall_congr' fun v => ?_) (and_congr_left' (by rw [rw_sdenote W hW α h]))
  rw [(hp.append_right _).mem_iff]

theorem c18_chain_and (α : Asg V) : ∀ (ds : List (SCond V)) (c : SCond V),
    sdenote W α (chain .and2 c ds) = (sdenote W α c && ds.all (sdenote W α)) := by
  intro ds
  induction ds with
  | nil => intro c; simp [chain]
  | cons d ds ih => intro c; simp [chain, ih, sdenote, Bool.and_assoc]

theorem c18_chain_or (α : Asg V) : ∀ (ds : List (SCond V)) (c : SCond V),
    sdenote W α (chain .or2 c ds) = (sdenote W α c || ds.any (sdenote W α)) := by
  intro ds
  induction ds with
  | nil => intro c; simp [chain]
  | cons d ds ih => intro c; simp [chain, ih, sdenote, Bool.or_assoc]

theorem c18_selection [Inhabited V] (hW : W.Lawful) (sel sel' : List (Term V)) (sc : SCond V)
    (hfs : Terms.noFlat sel = true) (hfs' : Terms.noFlat sel' = true) (hfc : sc.noFlat = true)
    (hsame : ∀ v, v ∈ Terms.vars sel ↔ v ∈ Terms.vars sel')
    (hne : ∀ v ∈ sc.vars, v ∉ Terms.vars sel → D v ≠ []) (r' : List V) :
    r' ∈ rows W D ⟨sel', some (build sc)⟩ ↔
      ∃ α, SAdm D sel sc α ∧ sdenote W α sc = true ∧ r' = termsVal W α sel' := by
  rw [c03_rows_iff W D hW sel' sc hfs' hfc (fun v hv hns => hne v hv (fun h => hns ((hsame v).1 h))) r']
  refine exists_congr fun α => and_congr_left' (forall_congr' fun v => ?_)
  rw [List.mem_append, List.mem_append, hsame v]

theorem c18_domain_perm [Inhabited V] (hW : W.Lawful) (D' : VarId → List V) (sel : List (Term V))
    (sc : SCond V) (hfs : Terms.noFlat sel = true) (hfc : sc.noFlat = true)
    (hmem : ∀ v o, o ∈ D v ↔ o ∈ D' v)
    (hne : ∀ v ∈ sc.vars, v ∉ Terms.vars sel → D v ≠ []) (r : List V) :
    r ∈ rows W D ⟨sel, some (build sc)⟩ ↔ r ∈ rows W D' ⟨sel, some (build sc)⟩ := by
  have hne' : ∀ v ∈ sc.vars, v ∉ Terms.vars sel → D' v ≠ [] := fun v hv hns h => by
    obtain ⟨o, ho⟩ := List.exists_mem_of_ne_nil _ (hne v hv hns)
    exact absurd ((hmem v o).1 ho) (h ▸ List.not_mem_nil)
  rw [c03_rows_iff W D hW sel sc hfs hfc hne r, c03_rows_iff W D' hW sel sc hfs hfc hne' r]
  exact exists_congr fun α => and_congr_left' (forall₂_congr fun v _ => hmem v _)

/-- A world over `Nat` in which `0` is an EMPTY collection (every other number is a one-element one). -/
def natWorldEmpty0 : World Nat := { natWorld with items := fun v => if v = 0 then [] else [v] }

/-- **The hypothesis `noFlat` of `c18_rows_invariant` cannot be dropped**: `x` over [0, 5], `0` an empty collection.
    `an(entity(x, or_(flatten(x) == 5, x == 0)))` yields only 5 - the left comparison has no output for the
    parent without elements (no element, no assignment: the UNNEST reading of C16), so the disjunction never
    tries its right side there - while the swapped `or_(x == 0, flatten(x) == 5)` yields 0 as well, because
    the flatten is never evaluated for it.  The model transliterates the implementation, which behaves
    the same way; C18 is claimed for conditions without a flatten. -/
theorem c18_flatten_in_disjunction_witness :
    let D : VarId → List Nat := fun _ => [0, 5]
    let l : Cond Nat := .cmp .eq (.flatten 9 (.var 0)) (.lit 5)
    let r : Cond Nat := .cmp .eq (.var 0) (.lit 0)
    rows natWorldEmpty0 D ⟨[.var 0], some (.elseIf l r)⟩ = [[5]] ∧
    rows natWorldEmpty0 D ⟨[.var 0], some (.elseIf r l)⟩ = [[0], [5]] := by decide +kernel

end Eql
