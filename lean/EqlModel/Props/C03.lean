/-
  C03 — negation returns the exact complement, at any nesting depth.

  Over the REGENERATED tables (`Gen.invOp`, `Gen.dunder`, `Gen.inCmp`, the `Not` dispatch): every operator
  is replaced by its true inverse (`invOp_negates`), so `Not` is logical negation at any depth (`neg_denote`) and
  the constructed tree means what the surface syntax says under ordinary Python semantics (`build_denote`);
  negating a negated condition restores it structurally (`neg_involutive`).  The statements about rows follow
  through C02.
-/
import EqlModel.Lemmas.BuildLemmas
import EqlModel.Props.C02

namespace Eql
variable {V : Type}
variable (W : World V)

theorem invOp_negates (hW : W.Lawful) (op : CmpOp) (a b : V) :
    W.cmp (Gen.invOp op) a b = !W.cmp op a b := by
  cases op <;> simp [Gen.invOp, hW.ne_eq, hW.ge_lt, hW.le_gt, hW.nc_c]

theorem invOp_involutive (op : CmpOp) : Gen.invOp (Gen.invOp op) = op := by
  cases op <;> rfl

/-- The `Not` dispatch is total and in the order the model assumes. -/
theorem not_dispatch_order :
    Gen.notDispatch = [.resultQuantifier, .entity, .setOf, .and, .or, .other] := by decide

theorem neg_denote (hW : W.Lawful) (α : Asg V) : ∀ (c : Cond V),
    denote W α (neg c) = !denote W α c := by
  intro c
  induction c with
  | cmp op l r => exact invOp_negates W hW op _ _
  | truth inv t | pred inv n args => cases inv <;> simp [neg, Gen.notTogglesFlag, denote]
  | and l r ihl ihr => simp [neg, Gen.notAndBuildsElseIf, denote, ihl, ihr]
  | elseIf l r ihl ihr => simp [neg, Gen.notOrBuildsAnd, denote, ihl, ihr]
  | sub sel c ih => exact ih

theorem neg_involutive : ∀ (c : Cond V), neg (neg c) = c := by
  intro c
  induction c with
  | cmp op l r => simp [neg, invOp_involutive]
  | truth inv t | pred inv n args => simp [neg, Gen.notTogglesFlag]
  | and l r ihl ihr | elseIf l r ihl ihr => simp [neg, Gen.notAndBuildsElseIf, Gen.notOrBuildsAnd, ihl, ihr]
  | sub sel c ih => simp [neg, ih]

theorem dunder_cmp (op : SurfOp) (a b : V) :
    (if (Gen.dunder op).2 then W.cmp (Gen.dunder op).1 b a else W.cmp (Gen.dunder op).1 a b) =
      applySurf W op a b := by
  cases op <;> rfl

theorem applySurf_mirror (hW : W.Lawful) (op : SurfOp) (a b : V) :
    applySurf W op.mirror b a = applySurf W op a b := by
  cases op <;>
    simp [SurfOp.mirror, applySurf, hW.gt_lt, hW.ge_lt, hW.le_gt, hW.ne_eq, hW.eq_comm b a]

/-- A comparison written with a plain value on either side, through the dunder table and
    CPython's reflection rule, means what it says. -/
theorem buildCmp_denote (hW : W.Lawful) (α : Asg V) (op : SurfOp) (l r : Term V) :
    denote W α (buildCmp op l r) = applySurf W op (termVal W α l) (termVal W α r) := by
  unfold buildCmp
  split
  · rw [← applySurf_mirror W hW, ← dunder_cmp]; simp only [apply_ite (denote W α), denote]
  · rw [← dunder_cmp]; simp only [apply_ite (denote W α), denote]

theorem build_denote (hW : W.Lawful) (α : Asg V) : ∀ (c : SCond V),
    denote W α (build c) = sdenote W α c := by
  intro c
  induction c with
  | cmp op l r => exact buildCmp_denote W hW α op l r
  | in_ i c | contains c i => rfl
  | truth t | pred n args => exact Bool.bne_false _
  | and2 l r ihl ihr | or2 l r ihl ihr => simp only [build, denote, sdenote, ihl, ihr]
  | not c ih => exact (neg_denote W hW α _).trans (congrArg (!·) ih)
  | sub sel c ih => exact ih

theorem contains_in_same (c i : Term V) :
    build (SCond.contains c i) = build (SCond.in_ i c) := by
  simp [build, buildContains, Gen.containsDelegatesSwapped]

variable (D : VarId → List V)

def SAdm (sel : List (Term V)) (sc : SCond V) (α : Asg V) : Prop :=
  ∀ v ∈ sc.vars ++ Terms.vars sel, α v ∈ D v

/-- **Rows of a surface query** = projections of the admissible assignments that satisfy the
    surface condition (C02 transported through `build`). -/
theorem c03_rows_iff [Inhabited V] (hW : W.Lawful) (sel : List (Term V)) (sc : SCond V)
    (hfs : Terms.noFlat sel = true) (hfc : sc.noFlat = true)
    (hne : ∀ v ∈ sc.vars, v ∉ Terms.vars sel → D v ≠ []) (r : List V) :
    r ∈ rows W D ⟨sel, some (build sc)⟩ ↔
      ∃ α, SAdm D sel sc α ∧ sdenote W α sc = true ∧ r = termsVal W α sel := by
  have hf : Query.noFlat ⟨sel, some (build sc)⟩ = true :=
    Bool.and_eq_true_iff.2 ⟨hfs, (build_noFlat sc).trans hfc⟩
  have hv : ∀ {v}, v ∈ (build sc).vars ++ Terms.vars sel ↔ v ∈ sc.vars ++ Terms.vars sel :=
    ((build_vars_perm sc).append_right _).mem_iff
  constructor
  · intro hr
    obtain ⟨α, ha, hh, he⟩ := c02_rows_sound W D ⟨sel, some (build sc)⟩ hf
      (fun v hb => hne v ((build_vars_perm sc).mem_iff.1 hb)) r hr
    exact ⟨α, fun v hm => ha v (hv.2 hm), (build_denote W hW α sc).symm.trans hh, he⟩
  · rintro ⟨α, ha, hh, rfl⟩
    exact c02_rows_complete W D ⟨sel, some (build sc)⟩ hf α (fun v hm => ha v (hv.1 hm))
      ((build_denote W hW α sc).trans hh)

/-- **Exact complement.** The rows of `not_(c)` are the projections of exactly the admissible
    assignments that do NOT satisfy `c`. -/
theorem c03_not_rows_iff [Inhabited V] (hW : W.Lawful) (sel : List (Term V)) (sc : SCond V)
    (hfs : Terms.noFlat sel = true) (hfc : sc.noFlat = true)
    (hne : ∀ v ∈ sc.vars, v ∉ Terms.vars sel → D v ≠ []) (r : List V) :
    r ∈ rows W D ⟨sel, some (build (.not sc))⟩ ↔
      ∃ α, SAdm D sel sc α ∧ sdenote W α sc = false ∧ r = termsVal W α sel := by
  rw [c03_rows_iff W D hW sel (.not sc) hfs hfc hne r]
  exact exists_congr fun α => and_congr_right' (and_congr_left' (.of_eq (Bool.not_eq_true' _)))

/-- **Double negation.** `not_(not_(c))` constructs exactly the tree of `c`, hence returns the
    same rows in the same order. -/
theorem c03_not_not_rows (sel : List (Term V)) (sc : SCond V) :
    rows W D ⟨sel, some (build (.not (.not sc)))⟩ = rows W D ⟨sel, some (build sc)⟩ := by
  simp [build, neg_involutive]

end Eql
