/-
  C05 — result caching is transparent.

  FULL STATEMENT (kept visible, FALSE of the code base — known findings C05-F1 … C05-F6):
      for every query and dataset, evaluating with the result caches enabled returns the same rows
      as evaluating with them disabled, on the first evaluation and on re-evaluation.
  What is proved:
  The cache INDEX (`IndexedCache`, model Cache.lean): retrieval is exact on every prefix-uniform trie
  (C20's `c20_retrieve_uniform_partial`) and not otherwise (`c20_wildcard_witness`, the root of C05-F1);
  every operator cache of a single-variable query has a single key, and such a cache is prefix-uniform
  after EVERY history.
  THE EVALUATOR, result cache enabled (L2 machine, `Machine.lean`), for single-variable queries.
  `c05_single_variable_conj`: induction over the tree with a specification for every operator cache
  (TSpec / NB, `Lemmas/MachineOne.lean`).  `c05_single_variable_tree`: here the left operand of every
  ElseIf is asked for its FALSE outputs as well, so the caches hold false entries and the duplicate
  tracking sets are exercised: the invariant is, per node, a cache specification (NBy / TSpecY: every
  stored pair is an object identity ↦ the node's is_false for it) TOGETHER WITH "every stored duplicate
  key clashes with the object at hand" (`Lemmas/MachineTree.lean`: bound_ok_y; `Lemmas/MachineTreeTop.lean`:
  top_ok_y).
  For several variables (sub-queries over variables of their own included), flatten, for_all and rule trees that the EVALUATOR's use of the
  index (check → retrieve → yield_final_output_from_cache, update_cache) is transparent is NOT proved -
  for several variables it is false (C05-F1).  The cache-aware evaluator exists as an executable
  model (layer L2, `Machine.lean`: the caching branches of Comparator / AND / ElseIf with their
  duplicate-tracking sets) and is run next to the implementation for three consecutive evaluations
  with caching on and off.  Outside the single-variable fragment transparency is decided by the
  differential check — caching on vs off vs oracle vs the L2 machine, first and later evaluations, with
  the number of cache hits taken reported for non-vacuity — and a deviation is attributed to a known
  finding only when the machine reproduces the implementation's rows (C05-F1/F2) or, for the findings
  no model reproduces (F3, F4, F5, F6), when caching off gives the specified rows inside the finding's
  scope.
-/
import EqlModel.Props.C20
import EqlModel.Lemmas.MachineOne
import EqlModel.Lemmas.MachineTreeTop
import EqlModel.NatWorld

namespace Eql.Cache
variable {A O : Type}
open Trie

/-- Every edge everywhere is concrete: the tries that FULL bindings build. -/
def valOnly : Trie A O → Bool
  | .cons k c rest => (match k with | .val _ => true | .all => false) && valOnly c && valOnly rest
  | _ => true

theorem valOnly_uniform (t : Trie A O) (h : valOnly t = true) :
    kindOk false t = true ∧ uniformBelow t = true := by
  induction t with
  | leaf o => exact ⟨rfl, rfl⟩
  | nil => exact ⟨rfl, rfl⟩
  | cons k c rest ihc ihr =>
    simp only [valOnly, Bool.and_eq_true] at h
    cases k with
    | all => exact absurd h.1.1 Bool.false_ne_true
    | val b =>
      simp only [kindOk, uniformBelow, kindAny, Bool.and_eq_true, Bool.or_eq_true]
      exact ⟨⟨rfl, (ihr h.2).1⟩, ⟨.inr (ihc h.1.2).1, (ihc h.1.2).2⟩, (ihr h.2).2⟩

theorem valOnly_mkPath (o : O) (p : List (Key A)) (hp : ∀ k ∈ p, k ≠ .all) :
    valOnly (mkPath o p : Trie A O) = true := by
  induction p with
  | nil => rfl
  | cons k ks ih =>
    rw [List.forall_mem_cons] at hp
    cases k with
    | all => exact absurd rfl hp.1
    | val b => simp only [mkPath, valOnly, ih hp.2, Bool.and_self]

variable [DecidableEq A]

theorem valOnly_insert (o : O) (t : Trie A O) (p : List (Key A)) (hp : ∀ k ∈ p, k ≠ .all)
    (h : valOnly t = true) : valOnly (Trie.insert o t p) = true := by
  fun_induction Trie.insert o t p with
  | case1 c rest p ps ih =>
    simp only [valOnly, Bool.and_eq_true] at h ⊢
    exact ⟨⟨h.1.1, ih (List.forall_mem_cons.1 hp).2 h.1.2⟩, h.2⟩
  | case2 k c rest p ps _ ih =>
    simp only [valOnly, Bool.and_eq_true] at h ⊢
    exact ⟨h.1, ih hp h.2⟩
  | case3 t p _ => exact valOnly_mkPath o p hp

def SingleKeyOps (k : Nat) (h : List (Op A O)) : Prop :=
  ∀ op ∈ h, match op with
    | .insert a _ => ∀ kv ∈ a, kv.1 = k
    | .clear => True

/-- **A cache that only ever receives FULL bindings is prefix-uniform**: every edge of its trie is concrete. -/
theorem c05_full_inserts_uniform (keys : List Nat) (h : List (Op A O))
    (hfull : ∀ a o, Op.insert a o ∈ h → a.isEmpty = false → ∀ k ∈ keys, a.get k ≠ none) :
    valOnly (run (init keys : Cache A O) h).trie = true := by
  refine (List.foldlRecOn h step (b := init keys) (motive := fun c => c.keys = keys ∧ valOnly c.trie = true)
    ⟨rfl, rfl⟩ ?_).2
  intro c ⟨hk, hv⟩ op hop
  cases op with
  | clear => exact ⟨hk, rfl⟩
  | insert a o =>
    rw [step, Cache.insert]
    split
    · exact ⟨hk, hv⟩
    · next he =>
      refine ⟨hk, valOnly_insert o _ _ ?_ hv⟩
      intro key hkey
      obtain ⟨k, hkk, rfl⟩ := List.mem_map.1 hkey
      have := hfull a o hop (eq_false_of_ne_true he) k (hk ▸ hkk)
      cases hg : a.get k with
      | none => exact absurd hg this
      | some v => exact fun e => nomatch e

/-- **Single-variable queries keep their caches prefix-uniform.** -/
theorem c05_single_key_uniform (k : Nat) : ∀ (h : List (Op A O)), SingleKeyOps k h →
    WS 1 (run (init [k] : Cache A O) h).trie ∧
    kindOk false (run (init [k] : Cache A O) h).trie = true ∧
    uniformBelow (run (init [k] : Cache A O) h).trie = true := by
  intro h hs
  refine ⟨(rel_run [k] (List.cons_ne_nil _ _) h _ _ (rel_empty (List.cons_ne_nil _ _) rfl rfl)).ws,
    valOnly_uniform _ (c05_full_inserts_uniform [k] h ?_)⟩
  -- a non-empty binding that mentions only `k` binds `k`
  intro a o hop he k' hk'
  cases List.mem_singleton.1 hk'
  cases a with
  | nil => cases he
  | cons kv rest =>
    have : kv.1 = k := hs _ hop kv List.mem_cons_self
    rw [Asg.get, ← this, lookup_self]
    exact fun e => nomatch e

/-- Hence (C20) retrieval from a single-key cache is exact after every history: all stored entries that
    agree with the lookup, each once, nothing else. -/
theorem c05_single_key_exact (k : Nat) (h : List (Op A O)) (hs : SingleKeyOps k h) (a : Asg A) :
    ∃ es : List (List (Key A) × O),
      (es.map (·.1)).Nodup ∧
      (∀ p o, (p, o) ∈ es ↔ (spec [k] h p = some o ∧ agree a [k] p = true)) ∧
      (run (init [k]) h).retrieve a = es.map fun e => (image a [k] e.1 a, e.2) := by
  have hu := c05_single_key_uniform k h hs
  refine c20_retrieve_uniform_partial [k] (List.cons_ne_nil _ _) h a ?_
  rw [Uniform, kindAny, hu.2.1, hu.2.2, Bool.or_true]
  rfl

end Eql.Cache

namespace Eql
open Machine
variable {V : Type} [BEq V] [Inhabited V]

/-- **C05 at the evaluator, single-variable conjunctive queries.**  With the result cache ENABLED, the
    `n`-th consecutive evaluation of the query object (n = 0, 1, 2, …) by the stateful evaluator returns
    exactly the rows of the L1 evaluation, in order. -/
theorem c05_single_variable_conj (W : World V) (D : VarId → List V) (P : Params V) (x : VarId)
    (hk : KeyOk P x D) (q : Query V) (c : Cond V) (hq : q.cond = some c) (hc : Machine.Cond.conj c = true)
    (hs : Cond.single x c) (hf : c.noFlat = true) (n : Nat) :
    (rowsM W D P true q (afterEvalsOn P W D q n [])).1 = rows W D q :=
  rowsM_on_single_iter P x W D hk q c hq hc hs hf n [] (cinvT_nil P x W D c [])

/-- Caching on and caching off agree, whatever was evaluated before in either configuration. -/
theorem c05_single_variable_conj_on_off (W : World V) (D : VarId → List V) (P : Params V) (x : VarId)
    (hk : KeyOk P x D) (q : Query V) (c : Cond V) (hq : q.cond = some c) (hc : Machine.Cond.conj c = true)
    (hs : Cond.single x c) (hf : c.noFlat = true) (n : Nat) (stOff : St) :
    (rowsM W D P true q (afterEvalsOn P W D q n [])).1 = (rowsM W D P false q stOff).1 := by
  rw [c05_single_variable_conj W D P x hk q c hq hc hs hf n, rowsM_conj_off W D P q c hq hc hf stOff]

/-- Non-vacuity: three evaluations in a row with the cache enabled (the second and third are served from
    the caches), a non-trivial answer. -/
example :
    let D : VarId → List Nat := fun _ => [1, 2, 3, 4]
    let P : Params Nat := { rank := id, toKey := id, ofKey := id }
    let q : Query Nat := ⟨[.var 0], some (.and (.cmp .gt (.var 0) (.lit 1)) (.cmp .lt (.var 0) (.lit 4)))⟩
    (rowsM natWorld D P true q (afterEvalsOn P natWorld D q 2 [])).1 = [[2], [3]] ∧
    rows natWorld D q = [[2], [3]] := by decide +kernel

/-- **C05 at the evaluator, ANY single-variable condition.**  With the result cache ENABLED, the `n`-th
    consecutive evaluation of the query object (n = 0, 1, 2, …) by the stateful evaluator - result caches of
    comparisons, conjunctions and disjunctions, coverage poisoning, duplicate tracking sets - returns exactly
    the rows of the L1 evaluation, in order: for every condition over one variable (conjunctions,
    disjunctions, sub-queries in condition position, over comparisons, truth tests and predicates; negations
    at the leaves, as `not_` builds them; no flatten) over a non-empty domain of distinct objects. -/
theorem c05_single_variable_tree (W : World V) (D : VarId → List V) (P : Params V) (x : VarId)
    (hk : KeyOk P x D) (hinj : Function.Injective P.rank) (hD : D x ≠ [])
    (q : Query V) (c : Cond V) (hq : q.cond = some c)
    (hs : Cond.single x c) (hf : c.noFlat = true) (n : Nat) :
    (rowsM W D P true q (afterEvalsOn P W D q n [])).1 = rows W D q :=
  rowsM_on_any_tree_iter P x W D hk hinj hD q c hq (Machine.Cond.tree_all c) hs hf n []
    (topInv_nil P x W D c [] false) dedupClean_nil

/-- Caching on and caching off agree on every evaluation (the variable being selected, so that the
    cache-less evaluator's duplicate tracking is covered by `rowsM_off_all_selected`). -/
theorem c05_single_variable_tree_on_off (W : World V) (D : VarId → List V) (P : Params V) (x : VarId)
    (hk : KeyOk P x D) (hinj : Function.Injective P.rank) (hD : D x ≠ []) (hDn : KeysNodup P.toKey D)
    (q : Query V) (c : Cond V) (hq : q.cond = some c)
    (hs : Cond.single x c) (hf : c.noFlat = true)
    (hall : ∀ v ∈ c.vars, v ∈ q.sel.flatMap Term.binds) (n m : Nat) :
    (rowsM W D P true q (afterEvalsOn P W D q n [])).1 =
      (rowsM W D P false q (afterEvals W D P q m [])).1 := by
  rw [c05_single_variable_tree W D P x hk hinj hD q c hq hs hf n,
    rowsM_off_all_selected_iter W D P hinj hDn q c hq hf hall m [] dedupClean_nil]

/-- Non-vacuity: a conjunction under a disjunction, three evaluations in a row with the cache enabled. -/
example :
    let D : VarId → List Nat := fun _ => [1, 2, 3, 4, 5]
    let P : Params Nat := { rank := id, toKey := id, ofKey := id }
    let q : Query Nat := ⟨[.var 0], some (.elseIf (.and (.cmp .gt (.var 0) (.lit 1)) (.cmp .lt (.var 0) (.lit 3)))
      (.cmp .ge (.var 0) (.lit 5)))⟩
    (rowsM natWorld D P true q (afterEvalsOn P natWorld D q 2 [])).1 = [[2], [5]] ∧
    rows natWorld D q = [[2], [5]] := by decide +kernel

/-- **The switch is read when a query is evaluated** (conjunctive queries over any number of variables): after `n`
    evaluations with the result cache ENABLED - whatever they left in the caches and tracking sets - an
    evaluation with the cache DISABLED returns exactly the L1 rows; nothing stored by the cached evaluations is
    consulted.  (The model's evaluator takes the switch as a run-time argument of every evaluation, as
    `is_caching_enabled()` is read inside `_evaluate__`; the correspondence stream `built_under_caching` checks that
    the implementation does so too.) -/
theorem c05_switch_off_after_cached_conj (W : World V) (D : VarId → List V) (P : Params V)
    (q : Query V) (c : Cond V) (hq : q.cond = some c) (hc : Machine.Cond.conj c = true)
    (hf : c.noFlat = true) (n : Nat) :
    (rowsM W D P false q (afterEvalsOn P W D q n [])).1 = rows W D q :=
  rowsM_conj_off W D P q c hq hc hf _

/-- Non-vacuity: two cached evaluations of a two-variable join, then one with the cache switched off. -/
example :
    let D : VarId → List Nat := fun _ => [1, 2, 3]
    let P : Params Nat := { rank := id, toKey := id, ofKey := id }
    let q : Query Nat := ⟨[.var 0, .var 1], some (.and (.cmp .lt (.var 0) (.var 1)) (.cmp .gt (.var 0) (.lit 1)))⟩
    (rowsM natWorld D P false q (afterEvalsOn P natWorld D q 2 [])).1 = [[2, 3]] ∧
    rows natWorld D q = [[2, 3]] := by decide +kernel

end Eql
