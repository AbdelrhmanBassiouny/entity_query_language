/-
  EqlModel.Spec — layer L0: what a condition and a query *mean*.

  `termVal`/`denote` give the value of an expression and the truth of a condition under a
  total assignment, by ordinary structural recursion: this is the "brute-force product filter"
  of the properties, stated without reference to the evaluation algorithm.
-/
import EqlModel.Basic

namespace Eql

variable {V : Type}

def termVal (W : World V) (α : Asg V) : Term V → V
  | .var v => α v
  | .lit c => c
  | .attr n t => W.attr n (termVal W α t)
  | .index k t => W.index (termVal W α t) k
  | .call m args t => W.call m args (termVal W α t)
  | .flatten id _ => α id
  | .concat id _ => α id

def termsVal (W : World V) (α : Asg V) : List (Term V) → List V
  | [] => []
  | t :: ts => termVal W α t :: termsVal W α ts

/-- An assignment respects a term: every variable takes a value of its domain and every flatten
    node an element of the collection its operand denotes. -/
def TermOk (W : World V) (D : VarId → List V) (α : Asg V) : Term V → Prop
  | .var v => α v ∈ D v
  | .lit _ => True
  | .attr _ t => TermOk W D α t
  | .index _ t => TermOk W D α t
  | .call _ _ t => TermOk W D α t
  | .flatten id t => TermOk W D α t ∧ α id ∈ W.items (termVal W α t)
  | .concat _ _ => True

def TermsOk (W : World V) (D : VarId → List V) (α : Asg V) : List (Term V) → Prop
  | [] => True
  | t :: ts => TermOk W D α t ∧ TermsOk W D α ts

/-- Truth of a constructed condition under a total assignment. -/
def denote (W : World V) (α : Asg V) : Cond V → Bool
  | .cmp op l r => W.cmp op (termVal W α l) (termVal W α r)
  | .truth inv t => W.truthy (termVal W α t) != inv
  | .pred inv name args => W.truthy (W.fn name (termsVal W α args)) != inv
  | .and l r => denote W α l && denote W α r
  | .elseIf l r => denote W α l || denote W α r
  | .sub _ c => denote W α c

def CondOk (W : World V) (D : VarId → List V) (α : Asg V) : Cond V → Prop
  | .cmp _ l r => TermOk W D α l ∧ TermOk W D α r
  | .truth _ t => TermOk W D α t
  | .pred _ _ args => TermsOk W D α args
  | .and l r => CondOk W D α l ∧ CondOk W D α r
  | .elseIf l r => CondOk W D α l ∧ CondOk W D α r
  | .sub sel c => CondOk W D α c ∧ TermsOk W D α sel

def asgOf [Inhabited V] (β : Bnd V) : Asg V := fun v => (β.lookup v).getD default

end Eql
