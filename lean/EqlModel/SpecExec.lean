/-
  EqlModel.SpecExec — an executable reading of the specification (brute-force product filter),
  printed by the driver next to the model's answer so that the Python oracle used for shrinking
  is itself diffed against the Lean specification on every batch.
-/
import EqlModel.Spec
import EqlModel.Build

namespace Eql
variable {V : Type}

/-- `HashedIterable.__iter__`: an element whose id is already memoised (`seen`) is skipped. -/
def dedupFrom [BEq V] (seen : List V) : List V → List V
  | [] => []
  | a :: as => if seen.contains a then dedupFrom seen as else a :: dedupFrom (a :: seen) as

/-- `let(T, domain)`: the members of the supplied collection that are instances of `T`
    (predicate.py filters with `isinstance`), each object once (`HashedIterable`). -/
def mkDom [BEq V] (W : World V) (cls : String) (raw : List V) : List V :=
  dedupFrom [] (raw.filter (W.isInst cls))

/-- All total bindings of the listed variables, first variable outermost. -/
def allBnds (D : VarId → List V) : List VarId → List (Bnd V)
  | [] => [[]]
  | v :: vs => (D v).flatMap fun o => (allBnds D vs).map fun β => (v, o) :: β

/-- Flatten nodes of a term, innermost first. -/
def Term.flats : Term V → List (VarId × Term V)
  | .var _ => []
  | .lit _ => []
  | .attr _ t => t.flats
  | .index _ t => t.flats
  | .call _ _ t => t.flats
  | .flatten id t => t.flats ++ [(id, t)]
  | .concat _ _ => []

def Terms.flats : List (Term V) → List (VarId × Term V)
  | [] => []
  | t :: ts => t.flats ++ Terms.flats ts

def SCond.flats : SCond V → List (VarId × Term V)
  | .cmp _ l r => l.flats ++ r.flats
  | .in_ i c => i.flats ++ c.flats
  | .contains c i => c.flats ++ i.flats
  | .truth t => t.flats
  | .pred _ args => Terms.flats args
  | .and2 l r => l.flats ++ r.flats
  | .or2 l r => l.flats ++ r.flats
  | .not c => c.flats
  | .sub sel c => c.flats ++ Terms.flats sel

/-- Variables that occur outside a `concatenate` (the operand's variable is aggregated away). -/
def Term.free : Term V → List VarId
  | .var v => [v]
  | .lit _ => []
  | .attr _ t => t.free
  | .index _ t => t.free
  | .call _ _ t => t.free
  | .flatten _ t => t.free
  | .concat _ _ => []

def Terms.free : List (Term V) → List VarId
  | [] => []
  | t :: ts => t.free ++ Terms.free ts

def SCond.free : SCond V → List VarId
  | .cmp _ l r => l.free ++ r.free
  | .in_ i c => i.free ++ c.free
  | .contains c i => c.free ++ i.free
  | .truth t => t.free
  | .pred _ args => Terms.free args
  | .and2 l r => l.free ++ r.free
  | .or2 l r => l.free ++ r.free
  | .not c => c.free
  | .sub sel c => c.free ++ Terms.free sel

/-- Concatenate nodes of a term with their operand. -/
def Term.concats : Term V → List (VarId × Term V)
  | .var _ => []
  | .lit _ => []
  | .attr _ t => t.concats
  | .index _ t => t.concats
  | .call _ _ t => t.concats
  | .flatten _ t => t.concats
  | .concat id t => [(id, t)]

def Terms.concats : List (Term V) → List (VarId × Term V)
  | [] => []
  | t :: ts => t.concats ++ Terms.concats ts

def SCond.concats : SCond V → List (VarId × Term V)
  | .cmp _ l r => l.concats ++ r.concats
  | .in_ i c => i.concats ++ c.concats
  | .contains c i => c.concats ++ i.concats
  | .truth t => t.concats
  | .pred _ args => Terms.concats args
  | .and2 l r => l.concats ++ r.concats
  | .or2 l r => l.concats ++ r.concats
  | .not c => c.concats
  | .sub sel c => c.concats ++ Terms.concats sel

/-- The single value of a `concatenate(t)`: all inner elements over all bindings of `t`'s variables. -/
def concatVal [Inhabited V] (W : World V) (D : VarId → List V) (t : Term V) : V :=
  W.mkList ((allBnds D t.vars.eraseDups).flatMap fun β => W.items (termVal W (asgOf β) t))

/-- Extend a binding by every element of every flatten node (UNNEST), skipping ids already bound. -/
def extendFlats [Inhabited V] (W : World V) : List (VarId × Term V) → Bnd V → List (Bnd V)
  | [], β => [β]
  | (id, t) :: fs, β =>
      if bound β id then extendFlats W fs β
      else (W.items (termVal W (asgOf β) t)).flatMap fun e => extendFlats W fs ((id, e) :: β)

/-- The specification's rows: filter of the (dependent) product, projected on the selection. -/
def specRows [Inhabited V] (W : World V) (D : VarId → List V) (vars : List VarId)
    (sel : List (Term V)) (sc : Option (SCond V)) : List (List V) :=
  let flats := (match sc with | some c => c.flats | none => []) ++ Terms.flats sel
  let concs := (match sc with | some c => c.concats | none => []) ++ Terms.concats sel
  let free := (match sc with | some c => c.free | none => []) ++ Terms.free sel
  let base : Bnd V := concs.map fun p => (p.1, concatVal W D p.2)
  let bs := ((allBnds D (vars.filter free.contains)).map (· ++ base)).flatMap (extendFlats W flats)
  let ok := bs.filter fun β => match sc with
    | some c => sdenote W (asgOf β) c
    | none => true
  ok.map fun β => termsVal W (asgOf β) sel

/-- The specification of `for_all(u, c)` (optionally `and_(d, for_all(u, c))`): the assignments of
    the other variables for which `c` holds under EVERY value of `u` (and `d` holds). -/
def specRowsForAll [Inhabited V] (W : World V) (D : VarId → List V) (vars : List VarId)
    (sel : List (Term V)) (outer : Option (SCond V)) (u : VarId) (sc : SCond V) : List (List V) :=
  let free := ((match outer with | some c => c.free | none => []) ++ sc.free ++ Terms.free sel).filter (· != u)
  let bs := allBnds D (vars.filter free.contains)
  let ok := bs.filter fun β =>
    (match outer with | some d => sdenote W (asgOf β) d | none => true) &&
    (D u).all fun o => sdenote W (asgOf ((u, o) :: β)) sc
  ok.map fun β => termsVal W (asgOf β) sel

/-- All assignments of the given universal variables (first listed = first in the binding). -/
def allUniv {V : Type} (D : VarId → List V) : List VarId → List (Bnd V)
  | [] => [[]]
  | u :: us => (D u).flatMap fun o => (allUniv D us).map fun β => (u, o) :: β

/-- The specification of `and_(d?, for_all(us₁, c₁), for_all(us₂, c₂), …)` (conjuncts in any order):
    the assignments of the free variables for which `d` holds and every `cᵢ` holds under EVERY
    assignment of its universal variables (for SOME element of every flatten node inside `cᵢ`: the
    element is not among the bindings a for_all keeps). -/
def specRowsStages [Inhabited V] (W : World V) (D : VarId → List V) (vars : List VarId)
    (sel : List (Term V)) (outer : Option (SCond V)) (fas : List (List VarId × SCond V)) : List (List V) :=
  let free := (match outer with | some c => c.free | none => []) ++ Terms.free sel ++
    fas.flatMap fun p => p.2.free.filter fun v => !p.1.contains v
  let bs := allBnds D (vars.filter free.contains)
  let ok := bs.filter fun β =>
    (match outer with | some d => sdenote W (asgOf β) d | none => true) &&
    fas.all fun p => (allUniv D p.1).all fun ub =>
      -- a flatten node inside the for_all's condition is existential: some element satisfies it
      (extendFlats W p.2.flats (ub ++ β)).any fun β' => sdenote W (asgOf β') p.2
  ok.map fun β => termsVal W (asgOf β) sel

end Eql
