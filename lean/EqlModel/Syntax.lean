/-
  Syntactic classes of terms and conditions that the model and the statements refer to: the variables of a
  condition (the cache keys of `Machine.lean`, the free ids of `ForAll.lean`), flatten-free (`noFlat`),
  well-formed with flatten (`okF`: no `concatenate`, a flatten id is not bound inside its own operand),
  single-variable (`single`), and ids that are variables or flatten nodes with one operand (`shaped`).
-/
import EqlModel.Basic

namespace Eql
variable {V : Type}

/-- Neither a `Flatten` nor a `Concatenate` node inside the term. -/
def Term.noFlat : Term V → Bool
  | .var _ => true
  | .lit _ => true
  | .attr _ t => t.noFlat
  | .index _ t => t.noFlat
  | .call _ _ t => t.noFlat
  | .flatten _ _ => false
  | .concat _ _ => false

def Terms.noFlat : List (Term V) → Bool
  | [] => true
  | t :: ts => t.noFlat && Terms.noFlat ts

def Cond.vars : Cond V → List VarId
  | .cmp _ l r => l.vars ++ r.vars
  | .truth _ t => t.vars
  | .pred _ _ args => Terms.vars args
  | .and l r => l.vars ++ r.vars
  | .elseIf l r => l.vars ++ r.vars
  | .sub sel c => c.vars ++ Terms.vars sel

def Cond.noFlat : Cond V → Bool
  | .cmp _ l r => l.noFlat && r.noFlat
  | .truth _ t => t.noFlat
  | .pred _ _ args => Terms.noFlat args
  | .and l r => l.noFlat && r.noFlat
  | .elseIf l r => l.noFlat && r.noFlat
  | .sub sel c => c.noFlat && Terms.noFlat sel

def Term.okF : Term V → Bool
  | .var _ => true
  | .lit _ => true
  | .attr _ t => t.okF
  | .index _ t => t.okF
  | .call _ _ t => t.okF
  | .flatten id t => t.okF && !t.binds.contains id
  | .concat _ _ => false

def Terms.okF : List (Term V) → Bool
  | [] => true
  | t :: ts => t.okF && Terms.okF ts

def Cond.okF : Cond V → Bool
  | .cmp _ l r => l.okF && r.okF
  | .truth _ t => t.okF
  | .pred _ _ args => Terms.okF args
  | .and l r => Cond.okF l && Cond.okF r
  | .elseIf l r => Cond.okF l && Cond.okF r
  | .sub sel c => Cond.okF c && Terms.okF sel

/-- Every leaf of the condition mentions the variable `x` and no other variable. -/
def Cond.single (x : VarId) : Cond V → Prop
  | .cmp _ l r => (∀ v ∈ l.vars ++ r.vars, v = x) ∧ (l.vars ≠ [] ∨ r.vars ≠ [])
  | .truth _ t => (∀ v ∈ t.vars, v = x) ∧ t.vars ≠ []
  | .pred _ _ args => (∀ v ∈ Terms.vars args, v = x) ∧ Terms.vars args ≠ []
  | .and l r => Cond.single x l ∧ Cond.single x r
  | .elseIf l r => Cond.single x l ∧ Cond.single x r
  | .sub sel c => Cond.single x c ∧ (∀ v ∈ Terms.vars sel, v = x)

/-- Ids are variables (`none`) or flatten nodes, each with its one operand. -/
abbrev Shape (V : Type) := VarId → Option (Term V)

def Term.shaped (Sh : Shape V) : Term V → Prop
  | .var v => Sh v = none
  | .lit _ => True
  | .attr _ t => t.shaped Sh
  | .index _ t => t.shaped Sh
  | .call _ _ t => t.shaped Sh
  | .flatten id t => Sh id = some t ∧ t.shaped Sh
  | .concat _ _ => False

def Terms.shaped (Sh : Shape V) : List (Term V) → Prop
  | [] => True
  | t :: ts => t.shaped Sh ∧ Terms.shaped Sh ts

def Cond.shaped (Sh : Shape V) : Cond V → Prop
  | .cmp _ l r => l.shaped Sh ∧ r.shaped Sh
  | .truth _ t => t.shaped Sh
  | .pred _ _ args => Terms.shaped Sh args
  | .and l r => Cond.shaped Sh l ∧ Cond.shaped Sh r
  | .elseIf l r => Cond.shaped Sh l ∧ Cond.shaped Sh r
  | .sub sel c => Cond.shaped Sh c ∧ Terms.shaped Sh sel

end Eql
