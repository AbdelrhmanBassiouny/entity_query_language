/-
  EqlModel.Machine — layer L2: the evaluator WITH its mutable per-node state: result caches
  (`IndexedCache` per operator) and duplicate-tracking sets (`SeenSet` per node, parent and truth).

  Transliteration (symbolic.py), eager in the order the generators run when they are consumed to
  the end (every per-node piece of state is touched by its own node only, so for evaluations that
  run to completion the eager order and the lazy order produce the same states and outputs;
  evaluations that stop early end in the reset/clear of `_reset_after_evaluation_`, C04):
    _required_variables_from_child_ (SymbolicExpression / ResultQuantifier / QueryObjectDescriptor /
        BinaryOperator / OR overrides)                         ↦ ReqFn, reqLeftOfAnd, reqOfOr…
    _is_duplicate_output_                                       ↦ isDup
    BinaryOperator.update_cache / yield_final_output_from_cache ↦ updCache / fromCache
    Comparator / AND / ElseIf ._evaluate__ (caching branches)   ↦ evalM
    An.evaluate … _reset_cache_ (de-dup sets reset, caches kept) ↦ resetDedup
  Cache keys are variable ids in DECLARATION order (`rank`), values are object identities (`toKey`).
-/
import EqlModel.Eval
import EqlModel.Cache
import EqlModel.Syntax

namespace Eql.Machine
open Eql

variable {V : Type}

structure Params (V : Type) where
  /-- position of a variable in declaration order (= order of the Python `_id_`s) -/
  rank : VarId → Nat
  /-- object identity (`HashedValue.id_`) -/
  toKey : V → Nat
  ofKey : Nat → V

abbrev Path := List Nat

structure NodeSt where
  cache  : Cache.Cache Nat Bool := { keys := [] }
  rcache : Cache.Cache Nat Bool := { keys := [] }
  seenT  : Cache.SeenSet Nat := {}
  seenF  : Cache.SeenSet Nat := {}

abbrev St := List (Path × NodeSt)

def getNode (st : St) (π : Path) : NodeSt := (st.lookup π).getD {}

def setNode (st : St) (π : Path) (n : NodeSt) : St :=
  (π, n) :: st.filter (fun p => p.1 != π)

/-- `parent._required_variables_from_child_(self, when_true)` as seen from a node. -/
abbrev ReqFn := Option Bool → List VarId

def insertSorted (P : Params V) (v : VarId) : List VarId → List VarId
  | [] => [v]
  | w :: ws => if P.rank v ≤ P.rank w then v :: w :: ws else w :: insertSorted P v ws

/-- `sorted(ids)` of the distinct variables (cache key order). -/
def keyList (P : Params V) (vars : List VarId) : List Nat :=
  ((vars.eraseDups).foldr (insertSorted P) []).map P.rank

/-- A binding as a cache assignment over the given key variables. -/
def toAsg (P : Params V) (vars : List VarId) (β : Bnd V) : Cache.Asg Nat :=
  (vars.eraseDups).filterMap fun v => (β.lookup v).map fun a => (P.rank v, P.toKey a)

/-- Merge a retrieved assignment back into a binding (`result = copy(assignment)` + cached keys). -/
def fromAsg (P : Params V) (vars : List VarId) (a : Cache.Asg Nat) (β : Bnd V) : Bnd V :=
  (vars.eraseDups).foldl (fun acc v =>
    match acc.lookup v, a.lookup (P.rank v) with
    | none, some k => (v, P.ofKey k) :: acc
    | _, _ => acc) β

/-- `_is_duplicate_output_`: required variables from the parent, per-truth seen set. -/
def isDup (P : Params V) (req : ReqFn) (isFalse : Bool) (out : Bnd V) (n : NodeSt) : Bool × NodeSt :=
  let required := req (some (!isFalse))
  if required.isEmpty then (false, n)
  else
    let ro := toAsg P required out
    if ro.isEmpty then (false, n)
    else
      let seen := if isFalse then n.seenF else n.seenT
      let r := seen.check ro
      if r.1 then (true, if isFalse then { n with seenF := r.2 } else { n with seenT := r.2 })
      else
        let s2 := r.2.add ro
        (false, if isFalse then { n with seenF := s2 } else { n with seenT := s2 })

/-- `yield_final_output_from_cache`. -/
def fromCache (P : Params V) (req : ReqFn) (vars : List VarId) (c : Cache.Cache Nat Bool) (β : Bnd V)
    (n : NodeSt) : List (Bnd V × Bool) × NodeSt :=
  (c.retrieve (toAsg P vars β)).foldl (fun (acc : List (Bnd V × Bool) × NodeSt) r =>
    let out := fromAsg P vars r.1 β
    if r.2 then
      let d := isDup P req true out acc.2
      if d.1 then (acc.1, d.2) else (acc.1 ++ [(out, true)], d.2)
    else (acc.1 ++ [(out, false)], acc.2)) ([], n)

def mkCache (P : Params V) (vars : List VarId) (c : Cache.Cache Nat Bool) : Cache.Cache Nat Bool :=
  if c.keys.isEmpty && c.trie.isEmptyNode && c.flat.isEmpty then { c with keys := keyList P vars } else c

/-- `BinaryOperator._required_variables_from_child_` for the LEFT / RIGHT child of an AND. -/
def reqLeftOfAnd (rightVars : List VarId) (req : ReqFn) : ReqFn := fun wt =>
  match wt with
  -- a TRUE output of the left operand does not decide the conjunction: what the parent needs when the conjunction turns
  -- out false is needed as well (repair R35)
  | some true => rightVars ++ req (some true) ++ req (some false)
  | _ => rightVars ++ req wt
def reqRightOfAnd (req : ReqFn) : ReqFn := fun wt => req wt

/-- `OR._required_variables_from_child_` for the LEFT / RIGHT child of an ElseIf. -/
def reqLeftOfOr (rightVars : List VarId) (req : ReqFn) : ReqFn := fun wt =>
  match wt.map (!·) with
  | some false => req (some true)              -- when_false = False: only needed when I am true
  | _ => rightVars ++ req none                 -- when_false True or None
def reqRightOfOr (req : ReqFn) : ReqFn := fun wt => req wt

/-- One left value of an AND (`AND._evaluate__`'s loop body); `evalR` evaluates the right operand. -/
def andStep (P : Params V) (caching : Bool) (π : Path) (req : ReqFn) (ywf : Bool) (rvars : List VarId)
    (evalR : Bnd V → St → List (Bnd V × Bool) × St)
    (acc : List (Bnd V × Bool) × St) (lv : Bnd V × Bool) : List (Bnd V × Bool) × St :=
  let n0 := getNode acc.2 π
  let n := { n0 with rcache := mkCache P rvars n0.rcache }
  if ywf && lv.2 then
    -- a false left value is forwarded unless it is a duplicate
    let d := isDup P req true lv.1 n
    if d.1 then (acc.1, setNode acc.2 π d.2) else (acc.1 ++ [(lv.1, true)], setNode acc.2 π d.2)
  else
    let chk := if caching then n.rcache.check (toAsg P rvars lv.1) else (false, n.rcache)
    let n1 := { n with rcache := chk.2 }
    if chk.1 then
      let fc := fromCache P req rvars n1.rcache lv.1 n1
      (acc.1 ++ fc.1, setNode acc.2 π fc.2)
    else
      let st1 := setNode acc.2 π n1
      let rr := evalR lv.1 st1
      let n2 := getNode rr.2 π
      let c2 := if caching then rr.1.foldl (fun c p => c.insert (toAsg P rvars p.1) p.2) n2.rcache else n2.rcache
      (acc.1 ++ rr.1, setNode rr.2 π { n2 with rcache := c2 })

/-- One right value under a false left value of an ElseIf: true right outputs are dropped when they are
    duplicates; every kept output is cached. -/
def orInner (P : Params V) (caching : Bool) (π : Path) (req : ReqFn) (ywf : Bool) (rvars : List VarId)
    (a2 : List (Bnd V × Bool) × St) (rv : Bnd V × Bool) : List (Bnd V × Bool) × St :=
  let nn := getNode a2.2 π
  if rv.2 && !ywf then a2
  else
    let d := if !rv.2 then isDup P req false rv.1 nn else (false, nn)
    if d.1 then (a2.1, setNode a2.2 π d.2)
    else
      let c2 := if caching then d.2.rcache.insert (toAsg P rvars rv.1) rv.2 else d.2.rcache
      (a2.1 ++ [rv], setNode a2.2 π { d.2 with rcache := c2 })

/-- One left value of an ElseIf (`ElseIf._evaluate__`'s loop body). -/
def orStep (P : Params V) (caching : Bool) (π : Path) (req : ReqFn) (ywf : Bool) (rvars : List VarId)
    (evalR : Bnd V → St → List (Bnd V × Bool) × St)
    (acc : List (Bnd V × Bool) × St) (lv : Bnd V × Bool) : List (Bnd V × Bool) × St :=
  if lv.2 then
    let n0 := getNode acc.2 π
    let n := { n0 with rcache := mkCache P rvars n0.rcache }
    let chk := if caching then n.rcache.check (toAsg P rvars lv.1) else (false, n.rcache)
    let n1 := { n with rcache := chk.2 }
    if chk.1 then
      let fc := fromCache P req rvars n1.rcache lv.1 n1
      (acc.1 ++ fc.1, setNode acc.2 π fc.2)
    else
      let st1 := setNode acc.2 π n1
      let rr := evalR lv.1 st1
      rr.1.foldl (orInner P caching π req ywf rvars) (acc.1, rr.2)
  else (acc.1 ++ [(lv.1, false)], acc.2)

variable (W : World V) (D : VarId → List V) (P : Params V) (caching : Bool)

/-- Evaluate a condition with its state.  Returns the outputs in order and the new state. -/
def evalM : Cond V → Path → ReqFn → Bnd V → Bool → St → List (Bnd V × Bool) × St
  | .cmp op l r, π, req, β, ywf, st =>
      let vars := l.vars ++ r.vars
      let n0 := getNode st π
      let n := { n0 with cache := mkCache P vars n0.cache }
      -- if is_caching_enabled(): if self._cache_.check(sources): yield from cache; return
      let chk := if caching then n.cache.check (toAsg P vars β) else (false, n.cache)
      let n1 := { n with cache := chk.2 }
      if chk.1 then
        let r := fromCache P req vars n1.cache β n1
        (r.1, setNode st π r.2)
      else
        let raw := evalCond W D (.cmp op l r) β ywf
        -- every yielded output is inserted under its key variables with output = is_false
        let c2 := if caching then raw.foldl (fun c p => c.insert (toAsg P vars p.1) p.2) n1.cache else n1.cache
        (raw, setNode st π { n1 with cache := c2 })
  | .truth inv t, _, _, β, ywf, st => (evalCond W D (.truth inv t) β ywf, st)
  | .pred inv name args, _, _, β, ywf, st => (evalCond W D (.pred inv name args) β ywf, st)
  | .and l r, π, req, β, ywf, st =>
      let lr := evalM l (0 :: π) (reqLeftOfAnd r.vars req) β ywf st
      lr.1.foldl (andStep P caching π req ywf r.vars
        (fun b s => evalM r (1 :: π) (reqRightOfAnd req) b ywf s)) ([], lr.2)
  | .elseIf l r, π, req, β, ywf, st =>
      let lr := evalM l (0 :: π) (reqLeftOfOr r.vars req) β true st
      if lr.1.isEmpty then
        -- the left branch produced nothing at all: evaluate the right branch against the sources
        let rr := evalM r (1 :: π) (reqRightOfOr req) β ywf lr.2
        let n0 := getNode rr.2 π
        let n := { n0 with rcache := mkCache P r.vars n0.rcache }
        let c2 := if caching then rr.1.foldl (fun c p => c.insert (toAsg P r.vars p.1) p.2) n.rcache else n.rcache
        (rr.1, setNode rr.2 π { n with rcache := c2 })
      else
        lr.1.foldl (orStep P caching π req ywf r.vars
          (fun b s => evalM r (1 :: π) (reqRightOfOr req) b ywf s)) ([], lr.2)
  | .sub sel c, π, req, β, ywf, st =>
      -- An(Entity(sel, c)) in condition position: required variables of the child also include the selected ones
      let cr := evalM c (0 :: π) (fun wt => req wt ++ sel.flatMap Term.binds) β ywf st
      (cr.1.flatMap fun p => (evalArgs W D sel p.1).map fun q => (q.1, p.2), cr.2)

/-- `_reset_cache_` after an evaluation: the duplicate-tracking sets are reset, the caches stay. -/
def resetDedup (st : St) : St := st.map fun p => (p.1, { p.2 with seenT := {}, seenF := {} })

/-- One `an(...).evaluate()` run to completion: rows and the state left behind. -/
def rowsM (q : Query V) (st : St) : List (List V) × St :=
  -- `required_vars.update(self.selected_variables)`: the selected expressions themselves count, so the id a selected
  -- Flatten node binds is part of the duplicate key, next to the variables
  let selVars := q.sel.flatMap Term.binds
  let outs := match q.cond with
    | none => ([([], false)], st)
    | some c => evalM W D P caching c [] (fun _ => selVars) [] false st
  (outs.1.flatMap fun p => if p.2 then [] else (evalArgs W D q.sel p.1).map (·.2), resetDedup outs.2)

end Eql.Machine
