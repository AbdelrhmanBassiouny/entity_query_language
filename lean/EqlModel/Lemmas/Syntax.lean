/-
  Flatten-free expressions (`noFlat`, EqlModel/Syntax.lean) are the special case of `okF` in which the ids bound are
  the variables and none of them is a flatten node (`okF_of_noFlat`); there an assignment is admissible (`TermOk` /
  `CondOk`) iff it keeps every variable inside its domain (`termOk_of_noFlat` ..), and a value depends on the variables
  the expression mentions only (`termVal_congr`, `denote_congr`).
-/
import EqlModel.Spec
import EqlModel.Syntax

namespace Eql
variable {V : Type}

theorem Term.okF_of_noFlat : ∀ {t : Term V}, t.noFlat = true →
    t.okF = true ∧ t.binds = t.vars ∧ t.shaped fun _ => none
  | .var _, _ => ⟨rfl, rfl, rfl⟩
  | .lit _, _ => ⟨rfl, rfl, trivial⟩
  | .attr _ t, h | .index _ t, h | .call _ _ t, h => Term.okF_of_noFlat (t := t) h

theorem Terms.okF_of_noFlat : ∀ {ts : List (Term V)}, Terms.noFlat ts = true →
    Terms.okF ts = true ∧ Terms.binds ts = Terms.vars ts ∧ Terms.shaped (fun _ => none) ts
  | [], _ => ⟨rfl, rfl, trivial⟩
  | t :: ts, h => by
    simp only [Terms.noFlat, Bool.and_eq_true] at h
    obtain ⟨a1, a2, a3⟩ := Term.okF_of_noFlat h.1
    obtain ⟨b1, b2, b3⟩ := Terms.okF_of_noFlat h.2
    exact ⟨by rw [Terms.okF, a1, b1]; rfl, by rw [Terms.binds, Terms.vars, a2, b2], a3, b3⟩

theorem Cond.okF_of_noFlat : ∀ {c : Cond V}, c.noFlat = true →
    c.okF = true ∧ c.binds = c.vars ∧ c.shaped fun _ => none := by
  intro c
  induction c with
  | cmp op l r =>
    intro h; simp only [Cond.noFlat, Bool.and_eq_true] at h
    obtain ⟨a1, a2, a3⟩ := Term.okF_of_noFlat h.1
    obtain ⟨b1, b2, b3⟩ := Term.okF_of_noFlat h.2
    exact ⟨by rw [Cond.okF, a1, b1]; rfl, by rw [Cond.binds, Cond.vars, a2, b2], a3, b3⟩
  | truth inv t => exact Term.okF_of_noFlat
  | pred inv n args => exact Terms.okF_of_noFlat
  | and l r ihl ihr | elseIf l r ihl ihr =>
    intro h; simp only [Cond.noFlat, Bool.and_eq_true] at h
    obtain ⟨a1, a2, a3⟩ := ihl h.1
    obtain ⟨b1, b2, b3⟩ := ihr h.2
    exact ⟨by rw [Cond.okF, a1, b1]; rfl, by rw [Cond.binds, Cond.vars, a2, b2], a3, b3⟩
  | sub sel c ih =>
    intro h; simp only [Cond.noFlat, Bool.and_eq_true] at h
    obtain ⟨a1, a2, a3⟩ := ih h.1
    obtain ⟨b1, b2, b3⟩ := Terms.okF_of_noFlat h.2
    exact ⟨by rw [Cond.okF, a1, b1]; rfl, by rw [Cond.binds, Cond.vars, a2, b2], a3, b3⟩

theorem single_vars (x : VarId) : ∀ (c : Cond V), Cond.single x c → ∀ v ∈ c.vars, v = x := by
  intro c
  induction c with
  | cmp op l r | truth inv t | pred inv n args => exact fun h => h.1
  | and l r ihl ihr | elseIf l r ihl ihr =>
    intro h v hv; exact (List.mem_append.1 hv).elim (ihl h.1 v) (ihr h.2 v)
  | sub sel c ih => intro h v hv; exact (List.mem_append.1 hv).elim (ih h.1 v) (h.2 v)

variable (W : World V)

theorem termVal_congr : ∀ (t : Term V), t.noFlat = true → ∀ (α α' : Asg V),
    (∀ v ∈ t.vars, α v = α' v) → termVal W α t = termVal W α' t := by
  intro t
  induction t with
  | var v => intro _ α α' h; exact h v List.mem_cons_self
  | lit c => intro _ α α' _; rfl
  | attr _ t ih | index _ t ih | call _ _ t ih => intro hf α α' h; simp only [termVal, ih hf α α' h]
  | flatten _ _ _ | concat _ _ _ => intro hf; cases hf

theorem termsVal_congr : ∀ (ts : List (Term V)), Terms.noFlat ts = true → ∀ (α α' : Asg V),
    (∀ v ∈ Terms.vars ts, α v = α' v) → termsVal W α ts = termsVal W α' ts := by
  intro ts
  induction ts with
  | nil => exact fun _ _ _ _ => rfl
  | cons t ts ih =>
    intro hf α α' h
    simp only [Terms.noFlat, Bool.and_eq_true] at hf
    simp only [Terms.vars, List.forall_mem_append] at h
    simp only [termsVal, termVal_congr W t hf.1 α α' h.1, ih hf.2 α α' h.2]

theorem denote_congr : ∀ (c : Cond V), c.noFlat = true → ∀ (α α' : Asg V),
    (∀ v ∈ c.vars, α v = α' v) → denote W α c = denote W α' c := by
  intro c
  induction c with
  | cmp op l r =>
    intro hf α α' h
    simp only [Cond.noFlat, Bool.and_eq_true] at hf
    simp only [Cond.vars, List.forall_mem_append] at h
    simp only [denote, termVal_congr W l hf.1 α α' h.1, termVal_congr W r hf.2 α α' h.2]
  | truth inv t => intro hf α α' h; simp only [denote, termVal_congr W t hf α α' h]
  | pred inv n args => intro hf α α' h; simp only [denote, termsVal_congr W args hf α α' h]
  | and l r ihl ihr | elseIf l r ihl ihr =>
    intro hf α α' h
    simp only [Cond.noFlat, Bool.and_eq_true] at hf
    simp only [Cond.vars, List.forall_mem_append] at h
    simp only [denote, ihl hf.1 α α' h.1, ihr hf.2 α α' h.2]
  | sub sel c ih =>
    intro hf α α' h
    simp only [Cond.noFlat, Bool.and_eq_true] at hf
    simp only [Cond.vars, List.forall_mem_append] at h
    exact ih hf.1 α α' h.1

variable (D : VarId → List V) (α : Asg V)

theorem termOk_of_noFlat : ∀ {t : Term V}, t.noFlat = true → (TermOk W D α t ↔ ∀ v ∈ t.vars, α v ∈ D v)
  | .var v, _ => (List.forall_mem_singleton (p := fun v => α v ∈ D v) (a := v)).symm
  | .lit _, _ => ⟨fun _ _ h => (nomatch h), fun _ => trivial⟩
  | .attr _ t, h | .index _ t, h | .call _ _ t, h => termOk_of_noFlat (t := t) h

theorem termsOk_of_noFlat : ∀ {ts : List (Term V)}, Terms.noFlat ts = true →
    (TermsOk W D α ts ↔ ∀ v ∈ Terms.vars ts, α v ∈ D v)
  | [], _ => ⟨fun _ _ h => (nomatch h), fun _ => trivial⟩
  | t :: ts, h => by
    simp only [Terms.noFlat, Bool.and_eq_true] at h
    rw [TermsOk, Terms.vars, List.forall_mem_append, termOk_of_noFlat W D α h.1, termsOk_of_noFlat h.2]

theorem condOk_of_noFlat : ∀ {c : Cond V}, c.noFlat = true → (CondOk W D α c ↔ ∀ v ∈ c.vars, α v ∈ D v) := by
  intro c
  induction c with
  | cmp op l r =>
    intro h; simp only [Cond.noFlat, Bool.and_eq_true] at h
    rw [CondOk, Cond.vars, List.forall_mem_append, termOk_of_noFlat W D α h.1, termOk_of_noFlat W D α h.2]
  | truth inv t => intro h; exact termOk_of_noFlat W D α (t := t) h
  | pred inv n args => intro h; exact termsOk_of_noFlat W D α (ts := args) h
  | and l r ihl ihr | elseIf l r ihl ihr =>
    intro h; simp only [Cond.noFlat, Bool.and_eq_true] at h
    rw [CondOk, Cond.vars, List.forall_mem_append, ihl h.1, ihr h.2]
  | sub sel c ih =>
    intro h; simp only [Cond.noFlat, Bool.and_eq_true] at h
    rw [CondOk, Cond.vars, List.forall_mem_append, ih h.1, termsOk_of_noFlat W D α h.2]

end Eql
