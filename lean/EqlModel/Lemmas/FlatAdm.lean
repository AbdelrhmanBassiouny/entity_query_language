/-
  Admissibility of the OUTPUT bindings of the L1 evaluator with `flatten` (UNNEST) nodes.

  `Lemmas/Flat.lean` shows: every output binding agrees with every admissible assignment that extends it.
  This file shows that such an assignment EXISTS: the binding an evaluation produces gives every variable a
  member of its domain and every flatten node an element of the collection its operand denotes under the
  same binding (`Adm`), and a true output of a condition whose disjunctions bind the same ids on both
  sides (`Cond.uniformB`) binds every id of the condition.  Together (`condOk_of_bound`, put together in
  `c16_unnest_rows_iff`): `asgOf β'` is an admissible assignment (`CondOk`) - the witness that turns the
  soundness statement of C16 into an equivalence.

  The ids are variables (`Sh id = none`) or flatten nodes with ONE operand (`Shape`, `shaped`).  What an output
  binds needs only the part of `Adm` that says which ids are bound (`Closed`), so that part goes first
  (`term_covers`, `args_covers`, `cond_covers`).
-/
import EqlModel.Lemmas.Flat

namespace Eql
variable {V : Type}

/-- Every disjunction binds the same ids (variables and flatten nodes) on both sides. -/
def Cond.uniformB : Cond V → Prop
  | .cmp _ _ _ => True
  | .truth _ _ => True
  | .pred _ _ _ => True
  | .and l r => Cond.uniformB l ∧ Cond.uniformB r
  | .elseIf l r => (∀ v, v ∈ l.binds ↔ v ∈ r.binds) ∧ Cond.uniformB l ∧ Cond.uniformB r
  | .sub _ c => Cond.uniformB c

theorem ext_asgOf [Inhabited V] (β : Bnd V) : Ext β (asgOf β) := by
  intro v a h; simp [asgOf, h]

/-- With a flatten node the ids of its operand are bound. -/
def Closed (Sh : Shape V) (β : Bnd V) : Prop :=
  ∀ id t, Sh id = some t → bound β id = true → ∀ w ∈ t.binds, bound β w = true

theorem closed_cons {Sh : Shape V} {β : Bnd V} {v : VarId} (o : V) (h : Closed Sh β)
    (hv : ∀ t, Sh v = some t → ∀ w ∈ t.binds, bound β w = true) : Closed Sh ((v, o) :: β) := by
  intro id t ht hb w hw
  refine bound_cons.2 (Or.inr ?_)
  rcases bound_cons.1 hb with e | hb
  · exact hv t (e ▸ ht) w hw
  · exact h id t ht hb w hw

variable (W : World V) (D : VarId → List V)

theorem term_covers (Sh : Shape V) : ∀ (t : Term V), t.okF = true → t.shaped Sh → ∀ (β β' : Bnd V) (a : V),
    Closed Sh β → (β', a) ∈ evalTerm W D t β → Closed Sh β' ∧ ∀ w ∈ t.binds, bound β' w = true := by
  intro t
  induction t with
  | var v =>
    intro _ hs β β' a hc h
    rcases (mem_evalTerm_var W D).1 h with ⟨hl, rfl⟩ | ⟨_, _, rfl⟩
    · exact ⟨hc, fun w hw => List.mem_singleton.1 hw ▸ bound_iff.2 ⟨a, hl⟩⟩
    · exact ⟨closed_cons a hc (fun t ht => nomatch hs.symm.trans ht),
        fun w hw => bound_cons.2 (Or.inl (List.mem_singleton.1 hw))⟩
  | lit c =>
    intro _ _ β β' a hc h
    simp only [evalTerm, List.mem_singleton, Prod.mk.injEq] at h
    exact h.1 ▸ ⟨hc, fun w hw => nomatch hw⟩
  | attr _ t ih | index _ t ih | call _ _ t ih =>
    intro hf hs β β' a hc h
    simp only [evalTerm, List.mem_map, Prod.mk.injEq] at h
    obtain ⟨p, hp, rfl, _⟩ := h
    exact ih hf hs β p.1 p.2 hc hp
  | flatten id t ih =>
    intro hf hs β β' a hc h
    simp only [Term.okF, Bool.and_eq_true] at hf
    rcases (mem_evalTerm_flatten W D).1 h with ⟨hl, rfl⟩ | ⟨_, p, hp, _, rfl⟩
    · have hb := bound_iff.2 ⟨a, hl⟩
      refine ⟨hc, fun w hw => ?_⟩
      rcases List.mem_cons.1 hw with e | hw
      · exact e ▸ hb
      · exact hc id t hs.1 hb w hw
    · obtain ⟨hc1, hb1⟩ := ih hf.1 hs.2 β p.1 p.2 hc hp
      refine ⟨closed_cons a hc1 fun t' ht' => ?_, fun w hw => bound_cons.2 ?_⟩
      · cases hs.1.symm.trans ht'; exact hb1
      · exact (List.mem_cons.1 hw).imp_right (hb1 w)
  | concat id t _ => intro hf; cases hf

theorem args_covers (Sh : Shape V) : ∀ (ts : List (Term V)), Terms.okF ts = true → Terms.shaped Sh ts →
    ∀ (β β' : Bnd V) (as : List V), Closed Sh β → (β', as) ∈ evalArgs W D ts β →
    Closed Sh β' ∧ ∀ w ∈ Terms.binds ts, bound β' w = true := by
  intro ts
  induction ts with
  | nil =>
    intro _ _ β β' as hc h
    cases (mem_evalArgs_nil W D).1 h
    exact ⟨hc, fun w hw => nomatch hw⟩
  | cons t ts ih =>
    intro hf hs β β' as hc h
    simp only [Terms.okF, Bool.and_eq_true] at hf
    obtain ⟨p, hp, r, hr, he⟩ := (mem_evalArgs_cons W D).1 h
    cases he
    obtain ⟨hc1, hb1⟩ := term_covers W D Sh t hf.1 hs.1 β p.1 p.2 hc hp
    obtain ⟨hc2, hb2⟩ := ih hf.2 hs.2 p.1 r.1 r.2 hc1 hr
    refine ⟨hc2, fun w hw => (List.mem_append.1 hw).elim (fun h1 => ?_) (hb2 w)⟩
    exact bound_of_sub (args_out W D ts hf.2 p.1 r.1 r.2 hr).1.1 (hb1 w h1)

theorem cond_covers (Sh : Shape V) : ∀ (c : Cond V), c.okF = true → c.shaped Sh →
    ∀ (β β' : Bnd V) (f ywf : Bool), Closed Sh β → (β', f) ∈ evalCond W D c β ywf →
    Closed Sh β' ∧ (c.uniformB → f = false → ∀ w ∈ c.binds, bound β' w = true) := by
  intro c
  induction c using Cond.leafInduction with
  | leaf c hl =>
    intro hf hs β β' f ywf hc h
    obtain ⟨ts, g, L⟩ := hl W D β
    obtain ⟨p, hp, he, _⟩ := (mem_evalCond_leaf W D L).1 h
    cases he
    have := args_covers W D Sh ts (L.okF ▸ hf) ((L.shaped Sh).1 hs) β p.1 p.2 hc hp
    exact ⟨this.1, fun _ _ w hw => this.2 w ((L.binds w).1 hw)⟩
  | and l r ihl ihr =>
    intro hf hs β β' f ywf hc h
    simp only [Cond.okF, Bool.and_eq_true] at hf
    obtain ⟨p, hp, h3⟩ := (mem_evalCond_and W D).1 h
    obtain ⟨hc1, hb1⟩ := ihl hf.1 hs.1 β p.1 p.2 ywf hc hp
    rcases h3 with ⟨_, _, he⟩ | ⟨hn, hq⟩
    · cases he; exact ⟨hc1, fun _ hf' => nomatch hf'⟩
    · obtain ⟨hc2, hb2⟩ := ihr hf.2 hs.2 p.1 β' f ywf hc1 hq
      refine ⟨hc2, fun hu hf' w hw => (List.mem_append.1 hw).elim (fun h1 => ?_) (hb2 hu.2 hf' w)⟩
      have hp2 := evalCond_left_true W D l hp hn
      exact bound_of_sub ((cond_spec W D r hf.2).1 p.1 β' f ywf hq).1.1 (hb1 hu.1 hp2 w h1)
  | elseIf l r ihl ihr =>
    intro hf hs β β' f ywf hc h
    simp only [Cond.okF, Bool.and_eq_true] at hf
    have hr : ∀ {w}, (Cond.elseIf l r).uniformB → w ∈ (Cond.elseIf l r).binds → w ∈ r.binds :=
      fun hu hw => (List.mem_append.1 hw).elim (hu.1 _).1 id
    rcases (mem_evalCond_elseIf W D).1 h with ⟨_, hq⟩ | ⟨p, hp, h3⟩
    · obtain ⟨hc2, hb2⟩ := ihr hf.2 hs.2 β β' f ywf hc hq
      exact ⟨hc2, fun hu hf' w hw => hb2 hu.2.2 hf' w (hr hu hw)⟩
    · obtain ⟨hc1, hb1⟩ := ihl hf.1 hs.1 β p.1 p.2 true hc hp
      rcases h3 with ⟨hp2, he⟩ | ⟨_, hq⟩
      · cases he
        exact ⟨hc1, fun hu _ w hw => hb1 hu.2.1 hp2 w ((hu.1 w).2 (hr hu hw))⟩
      · obtain ⟨hc2, hb2⟩ := ihr hf.2 hs.2 p.1 β' f ywf hc1 hq
        exact ⟨hc2, fun hu hf' w hw => hb2 hu.2.2 hf' w (hr hu hw)⟩
  | sub sel c ih =>
    intro hf hs β β' f ywf hc h
    simp only [Cond.okF, Bool.and_eq_true] at hf
    obtain ⟨p, hp, q, hq, he⟩ := (mem_evalCond_sub W D).1 h
    cases he
    obtain ⟨hc1, hb1⟩ := ih hf.1 hs.1 β p.1 p.2 ywf hc hp
    obtain ⟨hc2, hb2⟩ := args_covers W D Sh sel hf.2 hs.2 p.1 q.1 q.2 hc1 hq
    refine ⟨hc2, fun hu hf' w hw => (List.mem_append.1 hw).elim (fun h1 => ?_) (hb2 w)⟩
    exact bound_of_sub (args_out W D sel hf.2 p.1 q.1 q.2 hq).1.1 (hb1 hu hf' w h1)

/-- The invariant: a bound variable holds a member of its domain; a bound flatten node holds an element
    of what its operand denotes, and the operand's ids are bound with it. -/
def Adm (Sh : Shape V) (β : Bnd V) : Prop :=
  ∀ id a, β.lookup id = some a →
    (Sh id = none → a ∈ D id) ∧
    (∀ t, Sh id = some t → (∀ w ∈ t.binds, bound β w = true) ∧
      ∀ α, Ext β α → TermOk W D α t ∧ a ∈ W.items (termVal W α t))

theorem adm_nil (Sh : Shape V) : Adm W D Sh ([] : Bnd V) := by
  intro id a h; simp [List.lookup] at h

theorem Adm.closed {Sh : Shape V} {β : Bnd V} (h : Adm W D Sh β) : Closed Sh β := by
  intro id t ht hb
  obtain ⟨a, ha⟩ := bound_iff.1 hb
  exact ((h id a ha).2 t ht).1

theorem adm_cons {Sh : Shape V} {β : Bnd V} {v : VarId} {o : V} (h : Adm W D Sh β) (hfr : β.lookup v = none)
    (h1 : Sh v = none → o ∈ D v)
    (h2 : ∀ t, Sh v = some t → (∀ w ∈ t.binds, bound ((v, o) :: β) w = true) ∧
      ∀ α, Ext ((v, o) :: β) α → TermOk W D α t ∧ o ∈ W.items (termVal W α t)) :
    Adm W D Sh ((v, o) :: β) := by
  have hs : Sub β ((v, o) :: β) := sub_cons_fresh o hfr
  intro id a hl
  by_cases e : id = v
  · subst e
    rw [lookup_self] at hl
    cases hl
    exact ⟨h1, h2⟩
  · rw [lookup_cons_ne β o e] at hl
    obtain ⟨a1, a2⟩ := h id a hl
    refine ⟨a1, fun t ht => ?_⟩
    obtain ⟨b1, b2⟩ := a2 t ht
    exact ⟨fun w hw => bound_of_sub hs (b1 w hw), fun α hα => b2 α (ext_of_sub hs hα)⟩

theorem termOk_of_bound (Sh : Shape V) : ∀ (t : Term V), t.shaped Sh → ∀ (β : Bnd V), Adm W D Sh β →
    (∀ w ∈ t.binds, bound β w = true) → ∀ α, Ext β α → TermOk W D α t := by
  intro t
  induction t with
  | var v =>
    intro hs β hadm hb α hα
    obtain ⟨a, hl⟩ := bound_iff.1 (hb v List.mem_cons_self)
    exact show α v ∈ D v from (hα v a hl).symm ▸ (hadm v a hl).1 hs
  | lit c => intro _ _ _ _ _ _; trivial
  | attr _ t ih | index _ t ih | call _ _ t ih => exact ih
  | flatten id t _ =>
    intro hs β hadm hb α hα
    obtain ⟨a, hl⟩ := bound_iff.1 (hb id List.mem_cons_self)
    have := ((hadm id a hl).2 t hs.1).2 α hα
    exact ⟨this.1, show α id ∈ _ from (hα id a hl).symm ▸ this.2⟩
  | concat id t _ => intro hs; cases hs

theorem termsOk_of_bound (Sh : Shape V) : ∀ (ts : List (Term V)), Terms.shaped Sh ts → ∀ (β : Bnd V),
    Adm W D Sh β → (∀ w ∈ Terms.binds ts, bound β w = true) → ∀ α, Ext β α → TermsOk W D α ts := by
  intro ts
  induction ts with
  | nil => intro _ _ _ _ _ _; trivial
  | cons t ts ih =>
    intro hs β hadm hb α hα
    exact ⟨termOk_of_bound W D Sh t hs.1 β hadm (fun w hw => hb w (List.mem_append_left _ hw)) α hα,
      ih hs.2 β hadm (fun w hw => hb w (List.mem_append_right _ hw)) α hα⟩

theorem condOk_of_bound (Sh : Shape V) : ∀ (c : Cond V), Cond.shaped Sh c → ∀ (β : Bnd V),
    Adm W D Sh β → (∀ w ∈ c.binds, bound β w = true) → ∀ α, Ext β α → CondOk W D α c := by
  intro c
  induction c using Cond.leafInduction with
  | leaf c hl =>
    intro hs β hadm hb α hα
    obtain ⟨ts, g, L⟩ := hl W D β
    exact (L.ok α).2 (termsOk_of_bound W D Sh ts ((L.shaped Sh).1 hs) β hadm
      (fun w hw => hb w ((L.binds w).2 hw)) α hα)
  | and l r ihl ihr | elseIf l r ihl ihr =>
    intro hs β hadm hb α hα
    exact ⟨ihl hs.1 β hadm (fun w hw => hb w (List.mem_append_left _ hw)) α hα,
      ihr hs.2 β hadm (fun w hw => hb w (List.mem_append_right _ hw)) α hα⟩
  | sub sel c ih =>
    intro hs β hadm hb α hα
    exact ⟨ih hs.1 β hadm (fun w hw => hb w (List.mem_append_left _ hw)) α hα,
      termsOk_of_bound W D Sh sel hs.2 β hadm (fun w hw => hb w (List.mem_append_right _ hw)) α hα⟩

theorem term_adm (Sh : Shape V) : ∀ (t : Term V), t.okF = true → t.shaped Sh → ∀ (β β' : Bnd V) (a : V),
    Adm W D Sh β → (β', a) ∈ evalTerm W D t β → Adm W D Sh β' := by
  intro t
  induction t with
  | var v =>
    intro _ hs β β' a hadm h
    rcases (mem_evalTerm_var W D).1 h with ⟨_, rfl⟩ | ⟨hl, ho, rfl⟩
    · exact hadm
    · exact adm_cons W D hadm hl (fun _ => ho) (fun t ht => nomatch hs.symm.trans ht)
  | lit c =>
    intro _ _ β β' a hadm h
    simp only [evalTerm, List.mem_singleton, Prod.mk.injEq] at h
    exact h.1 ▸ hadm
  | attr _ t ih | index _ t ih | call _ _ t ih =>
    intro hf hs β β' a hadm h
    simp only [evalTerm, List.mem_map, Prod.mk.injEq] at h
    obtain ⟨p, hp, rfl, _⟩ := h
    exact ih hf hs β p.1 p.2 hadm hp
  | flatten id t ih =>
    intro hf hs β β' a hadm h
    simp only [Term.okF, Bool.and_eq_true, Bool.not_eq_true', List.contains_eq_mem,
      decide_eq_false_iff_not] at hf
    rcases (mem_evalTerm_flatten W D).1 h with ⟨_, rfl⟩ | ⟨hl, p, hp, he, rfl⟩
    · exact hadm
    · have hp1 := ih hf.1 hs.2 β p.1 p.2 hadm hp
      have hcov := (term_covers W D Sh t hf.1 hs.2 β p.1 p.2 hadm.closed hp).2
      obtain ⟨hg, hval⟩ := term_out W D t hf.1 β p.1 p.2 hp
      have hfr := hg.fresh hl hf.2
      refine adm_cons W D hp1 hfr (fun hn => nomatch hn.symm.trans hs.1) fun t' ht' => ?_
      cases hs.1.symm.trans ht'
      refine ⟨fun w hw => bound_cons.2 (Or.inr (hcov w hw)), fun α hα => ?_⟩
      have hx := (ext_cons_fresh hfr).1 hα
      -- the operand is admissible under α: all its ids are bound in p.1, which is admissible
      exact ⟨termOk_of_bound W D Sh t hs.2 p.1 hp1 hcov α hx.2, hval α hx.2 ▸ he⟩
  | concat id t _ => intro hf; cases hf

theorem args_adm (Sh : Shape V) : ∀ (ts : List (Term V)), Terms.okF ts = true → Terms.shaped Sh ts →
    ∀ (β β' : Bnd V) (as : List V), Adm W D Sh β → (β', as) ∈ evalArgs W D ts β → Adm W D Sh β' := by
  intro ts
  induction ts with
  | nil => intro _ _ β β' as hadm h; cases (mem_evalArgs_nil W D).1 h; exact hadm
  | cons t ts ih =>
    intro hf hs β β' as hadm h
    simp only [Terms.okF, Bool.and_eq_true] at hf
    obtain ⟨p, hp, r, hr, he⟩ := (mem_evalArgs_cons W D).1 h
    cases he
    exact ih hf.2 hs.2 p.1 r.1 r.2 (term_adm W D Sh t hf.1 hs.1 β p.1 p.2 hadm hp) hr

theorem cond_adm (Sh : Shape V) : ∀ (c : Cond V), Cond.okF c = true → Cond.shaped Sh c →
    ∀ (β β' : Bnd V) (f ywf : Bool), Adm W D Sh β → (β', f) ∈ evalCond W D c β ywf → Adm W D Sh β' := by
  intro c
  induction c using Cond.leafInduction with
  | leaf c hl =>
    intro hf hs β β' f ywf hadm h
    obtain ⟨ts, g, L⟩ := hl W D β
    obtain ⟨p, hp, he, _⟩ := (mem_evalCond_leaf W D L).1 h
    cases he
    exact args_adm W D Sh ts (L.okF ▸ hf) ((L.shaped Sh).1 hs) β p.1 p.2 hadm hp
  | and l r ihl ihr =>
    intro hf hs β β' f ywf hadm h
    simp only [Cond.okF, Bool.and_eq_true] at hf
    obtain ⟨p, hp, h3⟩ := (mem_evalCond_and W D).1 h
    have h1 := ihl hf.1 hs.1 β p.1 p.2 ywf hadm hp
    rcases h3 with ⟨_, _, he⟩ | ⟨_, hq⟩
    · cases he; exact h1
    · exact ihr hf.2 hs.2 p.1 β' f ywf h1 hq
  | elseIf l r ihl ihr =>
    intro hf hs β β' f ywf hadm h
    simp only [Cond.okF, Bool.and_eq_true] at hf
    rcases (mem_evalCond_elseIf W D).1 h with ⟨_, hq⟩ | ⟨p, hp, h3⟩
    · exact ihr hf.2 hs.2 β β' f ywf hadm hq
    · have h1 := ihl hf.1 hs.1 β p.1 p.2 true hadm hp
      rcases h3 with ⟨_, he⟩ | ⟨_, hq⟩
      · cases he; exact h1
      · exact ihr hf.2 hs.2 p.1 β' f ywf h1 hq
  | sub sel c ih =>
    intro hf hs β β' f ywf hadm h
    simp only [Cond.okF, Bool.and_eq_true] at hf
    obtain ⟨p, hp, q, hq, he⟩ := (mem_evalCond_sub W D).1 h
    cases he
    exact args_adm W D Sh sel hf.2 hs.2 p.1 q.1 q.2 (ih hf.1 hs.1 β p.1 p.2 ywf hadm hp) hq

theorem args_sub_f (ts : List (Term V)) (hf : Terms.okF ts = true) (β β' : Bnd V) (as : List V)
    (h : (β', as) ∈ evalArgs W D ts β) : Sub β β' :=
  (args_out W D ts hf β β' as h).1.1

theorem args_covers_f (Sh : Shape V) (ts : List (Term V)) (hf : Terms.okF ts = true) (hs : Terms.shaped Sh ts)
    (β β' : Bnd V) (as : List V) (hadm : Adm W D Sh β) (h : (β', as) ∈ evalArgs W D ts β) :
    ∀ w ∈ Terms.binds ts, bound β' w = true :=
  (args_covers W D Sh ts hf hs β β' as hadm.closed h).2

theorem true_output_total_f (Sh : Shape V) (c : Cond V) (hf : Cond.okF c = true) (hs : Cond.shaped Sh c)
    (hu : Cond.uniformB c) (β β' : Bnd V) (ywf : Bool) (hadm : Adm W D Sh β)
    (h : (β', false) ∈ evalCond W D c β ywf) : ∀ v ∈ c.binds, bound β' v = true :=
  (cond_covers W D Sh c hf hs β β' false ywf hadm.closed h).2 hu rfl

end Eql
