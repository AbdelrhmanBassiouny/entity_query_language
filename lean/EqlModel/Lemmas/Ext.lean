/-
  Bindings (`Bnd`): lookups, the assignments that extend a binding (`Ext`), the bindings that
  extend a binding (`Sub`), and values inside their domains (`BOk`).
-/
import EqlModel.Basic
import EqlModel.Lemmas.ListAux

namespace Eql
variable {V : Type}

theorem ext_nil (α : Asg V) : Ext ([] : Bnd V) α := by
  intro v a h; simp [List.lookup] at h

/-- `List.lookup_cons_self` at variable ids, stated once: the instance it needs, `ReflBEq VarId`, is slow to find. -/
theorem lookup_self {β : Bnd V} {v : VarId} {o : V} : List.lookup v ((v, o) :: β) = some o :=
  List.lookup_cons_self

theorem bound_iff {β : Bnd V} {v : VarId} : bound β v = true ↔ ∃ a, β.lookup v = some a :=
  Option.isSome_iff_exists

theorem bound_cons {β : Bnd V} {v w : VarId} {o : V} :
    bound ((v, o) :: β) w = true ↔ (w = v ∨ bound β w = true) := by
  by_cases e : w = v
  · subst e
    exact ⟨fun _ => .inl rfl, fun _ => by rw [bound, lookup_self]; rfl⟩
  · rw [bound, lookup_cons_ne β o e]
    exact ⟨.inr, fun h => h.resolve_left e⟩

def Sub (β β' : Bnd V) : Prop := ∀ v a, β.lookup v = some a → β'.lookup v = some a

theorem sub_refl (β : Bnd V) : Sub β β := fun _ _ h => h

theorem sub_trans {β1 β2 β3 : Bnd V} (h1 : Sub β1 β2) (h2 : Sub β2 β3) : Sub β1 β3 :=
  fun v a h => h2 v a (h1 v a h)

theorem sub_cons_fresh {β : Bnd V} {v : VarId} (o : V) (h : β.lookup v = none) : Sub β ((v, o) :: β) := by
  intro w a hw
  have : w ≠ v := by intro e; subst e; rw [h] at hw; cases hw
  rw [lookup_cons_ne β o this]; exact hw

theorem bound_of_sub {β β' : Bnd V} (h : Sub β β') {w : VarId} (hw : bound β w = true) :
    bound β' w = true := by
  obtain ⟨a, ha⟩ := bound_iff.1 hw
  exact bound_iff.2 ⟨a, h w a ha⟩

theorem ext_of_sub {β β' : Bnd V} (h : Sub β β') {α : Asg V} (hα : Ext β' α) : Ext β α :=
  fun v a hv => hα v a (h v a hv)

theorem ext_cons {β : Bnd V} {v : VarId} {o : V} {α : Asg V} (h1 : α v = o) (h2 : Ext β α) :
    Ext ((v, o) :: β) α := by
  intro w a hw
  by_cases e : w = v
  · subst e; rw [lookup_self] at hw; cases hw; exact h1
  · rw [lookup_cons_ne β o e] at hw; exact h2 w a hw

theorem ext_cons_fresh {β : Bnd V} {v : VarId} {o : V} {α : Asg V}
    (hfresh : β.lookup v = none) :
    Ext ((v, o) :: β) α ↔ (α v = o ∧ Ext β α) :=
  ⟨fun h => ⟨h v o lookup_self, ext_of_sub (sub_cons_fresh o hfresh) h⟩,
   fun h => ext_cons h.1 h.2⟩

theorem ext_agree {β : Bnd V} {α α' : Asg V} (h : Ext β α) (h' : Ext β α') {v : VarId}
    (hv : bound β v = true) : α v = α' v := by
  obtain ⟨a, ha⟩ := bound_iff.1 hv
  rw [h v a ha, h' v a ha]

theorem lookup_of_ext {β : Bnd V} {α : Asg V} (hα : Ext β α) {v : VarId} (hb : bound β v = true) :
    β.lookup v = some (α v) := by
  obtain ⟨a, ha⟩ := bound_iff.1 hb
  rw [ha, hα v a ha]

def constAsg (o : V) : Asg V := fun _ => o

def BOk (D : VarId → List V) (β : Bnd V) : Prop := ∀ v a, β.lookup v = some a → a ∈ D v

theorem bok_nil (D : VarId → List V) : BOk D ([] : Bnd V) := by
  intro v a h; simp [List.lookup] at h

theorem bok_cons {D : VarId → List V} {β : Bnd V} {v : VarId} {o : V}
    (h : BOk D β) (ho : o ∈ D v) : BOk D ((v, o) :: β) := by
  intro w a hw
  by_cases e : w = v
  · subst e; rw [lookup_self] at hw; cases hw; exact ho
  · rw [lookup_cons_ne β o e] at hw; exact h w a hw

end Eql
