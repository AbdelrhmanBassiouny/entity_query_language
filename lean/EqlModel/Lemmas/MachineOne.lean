/-
  L2 with the result cache ENABLED, single-variable queries: a cache whose only key is the query variable.
  `KeyOk` is what is assumed of the domain.  The specifications of such a cache (`NBy` / `TSpecY` under a flag; `NB` /
  `TSpec` = the flag `false`, all that the conjunctive fragment needs).  What a node does with a lookup, with no
  assumption on duplicate tracking: what is stored is served entry by entry (`serve`, `serveAll`), what is not is
  computed and stored (`viaR_one`, `cmp_one`, `cmp_top_first`).  `CacheLocal`: an invariant that reads the caches of
  a sub-tree only survives what happens elsewhere and the reset of the tracking sets.  Then the conjunctive fragment,
  where no duplicate check is ever reached: the invariants `CInvB` (`x` bound) and `CInvT` (`x` unbound at the
  left-most leaf), `bound_ok`, `top_ok`, `rowsM_on_single`.
-/
import EqlModel.Machine
import EqlModel.Lemmas.CacheOne
import EqlModel.Lemmas.Closed
import EqlModel.Lemmas.MachineState
import EqlModel.Lemmas.MachineConj
import EqlModel.Lemmas.MachineNoDup

namespace Eql.Machine
open Eql
variable {V : Type}
variable (P : Params V) (x : VarId)

/-- The key variables of a node's cache (`l.vars ++ r.vars`, `r.vars`) are `x` alone: its one key is `rank x`. -/
def OnlyX (vars : List VarId) : Prop := vars ≠ [] ∧ ∀ v ∈ vars, v = x

theorem eraseDups_onlyX {vars : List VarId} (h : OnlyX x vars) : vars.eraseDups = [x] := by
  obtain ⟨hne, hall⟩ := h
  cases vars with
  | nil => exact absurd rfl hne
  | cons v rest =>
    have hf : rest.filter (fun b => !b == v) = [] :=
      List.filter_eq_nil_iff.2 fun a ha => by
        rw [hall a (List.mem_cons_of_mem _ ha), hall v List.mem_cons_self]
        simp
    rw [List.eraseDups_cons, hf, hall v List.mem_cons_self]
    rfl

theorem toAsg_nil (vars : List VarId) : toAsg P vars ([] : Bnd V) = [] :=
  List.filterMap_eq_nil_iff.2 fun _ _ => rfl

theorem toAsg_single {vars : List VarId} (h : OnlyX x vars) (o : V) :
    toAsg P vars [(x, o)] = [(P.rank x, P.toKey o)] := by
  rw [toAsg, eraseDups_onlyX x h, List.filterMap_cons, lookup_self]
  rfl

theorem fromAsg_unbound {vars : List VarId} (h : OnlyX x vars) (v : Nat) :
    fromAsg P vars [(P.rank x, v)] ([] : Bnd V) = [(x, P.ofKey v)] := by
  rw [fromAsg, eraseDups_onlyX x h, List.foldl_cons, lookup_self]
  rfl

theorem fromAsg_bound {vars : List VarId} (h : OnlyX x vars) (a : Cache.Asg Nat) (o : V) :
    fromAsg P vars a [(x, o)] = [(x, o)] := by
  rw [fromAsg, eraseDups_onlyX x h, List.foldl_cons, lookup_self]
  rfl

theorem covers_single (k v w : Nat) : Cache.SeenSet.covers [(k, v)] [(k, w)] = (w == v) := by
  simp only [Cache.SeenSet.covers, List.all_cons, List.all_nil, Bool.and_true, Cache.Asg.get, lookup_self,
    Option.some_beq_some]

theorem onlyX_of_single_cmp {op : CmpOp} {l r : Term V} (hs : Cond.single x (.cmp op l r)) :
    OnlyX x (l.vars ++ r.vars) := by
  refine ⟨?_, hs.1⟩
  intro e
  rcases hs.2 with h | h
  · exact h (List.append_eq_nil_iff.1 e).1
  · exact h (List.append_eq_nil_iff.1 e).2

theorem single_vars_ne : ∀ (c : Cond V), Cond.single x c → c.vars ≠ [] := by
  intro c
  induction c with
  | cmp op l r => intro hs; exact (onlyX_of_single_cmp x hs).1
  | truth _ _ | pred _ _ _ => intro hs; exact hs.2
  | and _ _ ih _ | elseIf _ _ ih _ | sub _ _ ih => intro hs e; exact ih hs.1 (List.append_eq_nil_iff.1 e).1

theorem onlyX_single (c : Cond V) (hs : Cond.single x c) : OnlyX x c.vars :=
  ⟨single_vars_ne x c hs, single_vars x c hs⟩

/-- `I` depends on the state only through the two caches of the nodes in the sub-tree of `π`: every cache invariant of a
    tree is of this kind, and so is kept by whatever happens elsewhere and by the reset of the tracking sets. -/
def CacheLocal (π : Path) (I : St → Prop) : Prop :=
  ∀ s s' : St, (∀ π', InSub π π' → (getNode s' π').cache = (getNode s π').cache ∧
    (getNode s' π').rcache = (getNode s π').rcache) → I s → I s'

theorem CacheLocal.frame {π : Path} {I : St → Prop} (h : CacheLocal π I) {s s' : St}
    (hf : ∀ π', InSub π π' → getNode s' π' = getNode s π') (hi : I s) : I s' :=
  h s s' (fun π' hp => by rw [hf π' hp]; exact ⟨rfl, rfl⟩) hi

theorem CacheLocal.reset {π : Path} {I : St → Prop} (h : CacheLocal π I) {s : St} (hi : I s) : I (resetDedup s) :=
  h s _ (fun π' _ => by rw [getNode_resetDedup]; exact ⟨rfl, rfl⟩) hi

theorem cacheLocal_cache (π : Path) (Q : Cache.Cache Nat Bool → Prop) : CacheLocal π fun s => Q (getNode s π).cache :=
  fun _ s' h hi => by show Q (getNode s' π).cache; rw [(h π (inSub_refl π)).1]; exact hi

theorem cacheLocal_rcache (π : Path) (Q : Cache.Cache Nat Bool → Prop) : CacheLocal π fun s => Q (getNode s π).rcache :=
  fun _ s' h hi => by show Q (getNode s' π).rcache; rw [(h π (inSub_refl π)).2]; exact hi

theorem cacheLocal_and {π : Path} {I J : St → Prop} (hI : CacheLocal π I) (hJ : CacheLocal π J) :
    CacheLocal π fun s => I s ∧ J s :=
  fun s s' h hi => ⟨hI s s' h hi.1, hJ s s' h hi.2⟩

theorem cacheLocal_child {k : Nat} {π : Path} {I : St → Prop} (h : CacheLocal (k :: π) I) : CacheLocal π I :=
  fun s s' hf hi => h s s' (fun π' hp => hf π' (inSub_child hp)) hi

theorem cacheLocal_true (π : Path) : CacheLocal π fun _ => True := fun _ _ _ _ => trivial

variable (W : World V) (D : VarId → List V)

/-- On the domain of `x`: objects are told apart by their identities (`id_`), `ofKey` leads from an identity back to
    its object (`fromAsg` rebuilds a binding from cached keys), and the domain lists each object once. -/
structure KeyOk : Prop where
  inv : ∀ o ∈ D x, P.ofKey (P.toKey o) = o
  inj : ∀ o ∈ D x, ∀ o' ∈ D x, P.toKey o = P.toKey o' → o = o'
  nodup : (D x).Nodup

/-- A cache that is only consulted with `x` bound, for the truth function `H` of its node: not
    poisoned; every stored pair is `(identity of an object with H true) ↦ is_false = False`; the
    coverage set lists exactly the stored identities. -/
structure NB (c : Cache.Cache Nat Bool) (H : V → Bool) : Prop where
  flat : c.flat = []
  notAll : c.seen.allSeen = false
  body : ∃ E : List (Nat × Bool), Cache.One c (P.rank x) E ∧
    (∀ p ∈ E, p.2 = false ∧ ∃ o ∈ D x, p.1 = P.toKey o ∧ H o = true) ∧
    (∀ a, a ∈ c.seen.seen ↔ ∃ p ∈ E, a = [(P.rank x, p.1)])

/-- `NB`, or a cache still untouched (`mkCache` gives it its key at first use). -/
def BSpec (c : Cache.Cache Nat Bool) (H : V → Bool) : Prop :=
  (c.keys = [] ∧ c.trie = .nil ∧ c.flat = [] ∧ c.seen.seen = [] ∧ c.seen.allSeen = false) ∨ NB P x D c H

/-- A cache consulted with `x` bound by a node evaluated under the flag `ywf` (the left operand of an ElseIf is asked
    for its false outputs too): every stored pair is (identity of an object) ↦ (is_false of the node for it). -/
structure NBy (c : Cache.Cache Nat Bool) (ywf : Bool) (H : V → Bool) : Prop where
  flat : c.flat = []
  notAll : c.seen.allSeen = false
  body : ∃ E : List (Nat × Bool), Cache.One c (P.rank x) E ∧
    (∀ p ∈ E, ∃ o ∈ D x, p.1 = P.toKey o ∧ p.2 = !H o ∧ (ywf = false → H o = true)) ∧
    (∀ a, a ∈ c.seen.seen ↔ ∃ p ∈ E, a = [(P.rank x, p.1)])

def BSpecY (c : Cache.Cache Nat Bool) (ywf : Bool) (H : V → Bool) : Prop :=
  (c.keys = [] ∧ c.trie = .nil ∧ c.flat = [] ∧ c.seen.seen = [] ∧ c.seen.allSeen = false) ∨ NBy P x D c ywf H

theorem mkCache_untouched {vars : List VarId} (hv : OnlyX x vars) {c : Cache.Cache Nat Bool} (h1 : c.keys = [])
    (h2 : c.trie = .nil) (h3 : c.flat = []) : mkCache P vars c = { c with keys := [P.rank x] } := by
  rw [mkCache, h1, h2, h3, keyList, eraseDups_onlyX x hv]
  rfl

theorem mkCache_one (vars : List VarId) {c : Cache.Cache Nat Bool} {k : Nat} {E : List (Nat × Bool)}
    (h : Cache.One c k E) : mkCache P vars c = c := by
  rw [mkCache, h.keys]
  rfl

theorem nby_mkCache {vars : List VarId} (hv : OnlyX x vars) {c : Cache.Cache Nat Bool} {ywf : Bool} {H : V → Bool}
    (h : BSpecY P x D c ywf H) : NBy P x D (mkCache P vars c) ywf H := by
  rcases h with ⟨h1, h2, h3, h4, h5⟩ | h
  · rw [mkCache_untouched P x hv h1 h2 h3]
    exact ⟨h3, h5, [], ⟨rfl, h2⟩, fun _ hp => absurd hp List.not_mem_nil, fun a => by simp [h4]⟩
  · obtain ⟨E, hone, _⟩ := h.body
    rw [mkCache_one P vars hone]
    exact h

theorem nb_iff_nby (c : Cache.Cache Nat Bool) (H : V → Bool) : NB P x D c H ↔ NBy P x D c false H := by
  constructor
  · rintro ⟨hf, hn, E, hone, hE, hs⟩
    refine ⟨hf, hn, E, hone, fun p hp => ?_, hs⟩
    obtain ⟨h1, o, ho, h2, h3⟩ := hE p hp
    exact ⟨o, ho, h2, by rw [h1, h3]; rfl, fun _ => h3⟩
  · rintro ⟨hf, hn, E, hone, hE, hs⟩
    refine ⟨hf, hn, E, hone, fun p hp => ?_, hs⟩
    obtain ⟨o, ho, h2, h3, h4⟩ := hE p hp
    exact ⟨by rw [h3, h4 rfl]; rfl, o, ho, h2, h4 rfl⟩

theorem bspec_iff_bspecY (c : Cache.Cache Nat Bool) (H : V → Bool) : BSpec P x D c H ↔ BSpecY P x D c false H :=
  or_congr Iff.rfl (nb_iff_nby P x D c H)

theorem nb_check {c : Cache.Cache Nat Bool} (hna : c.seen.allSeen = false) (E : List (Nat × Bool))
    (hone : Cache.One c (P.rank x) E) (hseen : ∀ a, a ∈ c.seen.seen ↔ ∃ p ∈ E, a = [(P.rank x, p.1)]) (w : Nat) :
    c.check [(P.rank x, w)] = ((E.lookup w).isSome, c) := by
  have hfil : ([(P.rank x, w)] : Cache.Asg Nat).filter (fun kv => c.keys.contains kv.1) = [(P.rank x, w)] := by
    simp [hone.keys]
  simp only [Cache.Cache.check, hfil, Cache.SeenSet.check, hna, Bool.false_eq_true, if_false, List.isEmpty_cons]
  congr 1
  rw [Bool.eq_iff_iff, List.any_eq_true, List.lookup_isSome_iff]
  constructor
  · rintro ⟨a, ha, hcov⟩
    obtain ⟨p, hp, rfl⟩ := (hseen a).1 ha
    exact ⟨p, hp, by rwa [covers_single] at hcov⟩
  · rintro ⟨p, hp, hw⟩
    exact ⟨_, (hseen _).2 ⟨p, hp, rfl⟩, by rwa [covers_single]⟩

theorem nby_store {vars : List VarId} (hv : OnlyX x vars) {c : Cache.Cache Nat Bool} {ywf : Bool} {H : V → Bool}
    (h : NBy P x D c ywf H) (o : V) (ho : o ∈ D x)
    (hfresh : ∀ E, Cache.One c (P.rank x) E → E.lookup (P.toKey o) = none) :
    NBy P x D ((closedOut ([(x, o)] : Bnd V) (H o) ywf).foldl
      (fun c p => c.insert (toAsg P vars p.1) p.2) c) ywf H := by
  by_cases hy : (H o || ywf) = true
  · obtain ⟨E, hone, hE, hseen⟩ := h.body
    obtain ⟨i1, i2, i3⟩ := Cache.insert_one hone (P.toKey o) (!H o)
    rw [Cache.upd_fresh E _ _ (hfresh E hone)] at i1
    have hadd : c.seen.add [(P.rank x, P.toKey o)] =
        { seen := c.seen.seen ++ [[(P.rank x, P.toKey o)]], allSeen := false } := by
      simp [Cache.SeenSet.add, h.notAll]
    simp only [closedOut, hy, if_true, List.foldl_cons, List.foldl_nil, toAsg_single P x hv]
    refine ⟨i3.trans h.flat, by rw [i2, hadd], _, i1, fun p hp => ?_, fun a => ?_⟩
    · rcases List.mem_append.1 hp with hp | hp
      · exact hE p hp
      · rw [List.mem_singleton.1 hp]
        exact ⟨o, ho, rfl, rfl, fun hyf => by simpa [hyf] using hy⟩
    · rw [i2, hadd]
      simp only [List.mem_append, List.mem_singleton, hseen a, or_and_right, exists_or, exists_eq_left]
  · rw [closedOut, if_neg hy]
    exact h

/-- Truth of a condition for `x ↦ o`. -/
def Hc (c : Cond V) : V → Bool := fun o => denote W (constAsg o) c

/-- What `fromCache` does with one retrieved entry: a false output goes through the duplicate check. -/
def serve (req : ReqFn) (out : Bnd V) (isFalse : Bool) (n : NodeSt) : List (Bnd V × Bool) × NodeSt :=
  if isFalse then (if (isDup P req true out n).1 then [] else [(out, true)], (isDup P req true out n).2)
  else ([(out, false)], n)

/-- What `fromCache` does with the retrieved entries, one after the other. -/
def serveAll (req : ReqFn) : List (Bnd V × Bool) → NodeSt → List (Bnd V × Bool) × NodeSt
  | [], n => ([], n)
  | e :: es, n => ((serve P req e.1 e.2 n).1 ++ (serveAll req es (serve P req e.1 e.2 n).2).1,
      (serveAll req es (serve P req e.1 e.2 n).2).2)

theorem serve_false (req : ReqFn) (out : Bnd V) (n : NodeSt) : serve P req out false n = ([(out, false)], n) := rfl

theorem serve_of_holds (req : ReqFn) (c : Cond V) (o : V) (n : NodeSt) (h : Hc W c o = true) :
    serve P req [(x, o)] (!Hc W c o) n = (singleOut W c x false o, n) := by
  rw [singleOut, show denote W (constAsg o) c = true from h, h]
  rfl

/-- `fromCache`'s loop, over any list of retrieved entries and from any accumulator. -/
theorem foldl_serve (req : ReqFn) (vars : List VarId) (β : Bnd V) :
    ∀ (L : List (Cache.Asg Nat × Bool)) (a : List (Bnd V × Bool) × NodeSt),
    L.foldl (fun (acc : List (Bnd V × Bool) × NodeSt) r =>
      let out := fromAsg P vars r.1 β
      if r.2 then
        let d := isDup P req true out acc.2
        if d.1 then (acc.1, d.2) else (acc.1 ++ [(out, true)], d.2)
      else (acc.1 ++ [(out, false)], acc.2)) a =
      (a.1 ++ (serveAll P req (L.map fun r => (fromAsg P vars r.1 β, r.2)) a.2).1,
        (serveAll P req (L.map fun r => (fromAsg P vars r.1 β, r.2)) a.2).2) := by
  intro L
  induction L with
  | nil => intro a; exact Prod.ext (List.append_nil a.1).symm rfl
  | cons r rest ih =>
    intro a
    rw [List.foldl_cons, ih, List.map_cons, serveAll, ← List.append_assoc]
    cases r.2 with
    | false => rfl
    | true =>
      unfold serve
      rcases Bool.eq_false_or_eq_true (isDup P req true (fromAsg P vars r.1 β) a.2).1 with h | h
      · simp only [h, if_true, List.append_nil]
      · simp only [h, Bool.false_eq_true, if_false, if_true]

theorem fromCache_eq_serveAll (req : ReqFn) (vars : List VarId) (c : Cache.Cache Nat Bool) (β : Bnd V) (n : NodeSt) :
    fromCache P req vars c β n =
      serveAll P req ((c.retrieve (toAsg P vars β)).map fun r => (fromAsg P vars r.1 β, r.2)) n := by
  rw [fromCache, foldl_serve]
  rfl

theorem serveAll_false (req : ReqFn) (n : NodeSt) : ∀ (es : List (Bnd V × Bool)), (∀ e ∈ es, e.2 = false) →
    serveAll P req es n = (es, n) := by
  intro es
  induction es with
  | nil => intro _; rfl
  | cons e es ih =>
    intro h
    rw [serveAll, h e List.mem_cons_self, serve_false, ih fun e' he' => h e' (List.mem_cons_of_mem _ he'),
      ← h e List.mem_cons_self]
    rfl

theorem nby_serve (hk : KeyOk P x D) {vars : List VarId} (hv : OnlyX x vars) (req : ReqFn)
    {c : Cache.Cache Nat Bool} (ywf : Bool) (H : V → Bool) (E : List (Nat × Bool)) (hone : Cache.One c (P.rank x) E)
    (hE : ∀ p ∈ E, ∃ o ∈ D x, p.1 = P.toKey o ∧ p.2 = !H o ∧ (ywf = false → H o = true))
    (o : V) (ho : o ∈ D x) (f : Bool) (hl : E.lookup (P.toKey o) = some f) (n : NodeSt) :
    (ywf = false → H o = true) ∧ fromCache P req vars c [(x, o)] n = serve P req [(x, o)] (!H o) n := by
  obtain ⟨o', ho', hkey, hf0, hyw⟩ := hE _ (mem_of_lookup E _ f hl)
  obtain rfl : o' = o := hk.inj o' ho' o ho hkey.symm
  obtain rfl : f = !H o' := hf0
  refine ⟨hyw, ?_⟩
  rw [fromCache_eq_serveAll, toAsg_single P x hv, Cache.retrieve_bound hone, hl]
  simp only [List.map_cons, List.map_nil, serveAll, List.append_nil, fromAsg_bound P x hv]

theorem fromCache_free (hk : KeyOk P x D) {vars : List VarId} (hv : OnlyX x vars) (req : ReqFn)
    {c : Cache.Cache Nat Bool} (g : V → Bool) {L : List V} (hL : ∀ o ∈ L, o ∈ D x)
    (hone : Cache.One c (P.rank x) (L.map fun o => (P.toKey o, g o))) (n : NodeSt) :
    fromCache P req vars c [] n = serveAll P req (L.map fun o => ([(x, o)], g o)) n := by
  rw [fromCache_eq_serveAll, toAsg_nil, Cache.retrieve_free hone, List.map_map, List.map_map]
  congr 1
  exact List.map_congr_left fun o ho => by
    show (fromAsg P vars [(P.rank x, P.toKey o)] [], g o) = _
    rw [fromAsg_unbound P x hv, hk.inv o (hL o ho)]

theorem nby_lookup (hk : KeyOk P x D) {vars : List VarId} (hv : OnlyX x vars) (req : ReqFn)
    {c : Cache.Cache Nat Bool} {y : Bool} {H : V → Bool} (h : NBy P x D c y H) (o : V) (ho : o ∈ D x) :
    ((∀ E, Cache.One c (P.rank x) E → E.lookup (P.toKey o) = none) ∧
      c.check (toAsg P vars [(x, o)]) = (false, c)) ∨
    ((y = false → H o = true) ∧ c.check (toAsg P vars [(x, o)]) = (true, c) ∧
      ∀ n, fromCache P req vars c [(x, o)] n = serve P req [(x, o)] (!H o) n) := by
  obtain ⟨E, hone, hE, hseen⟩ := h.body
  have hchk := nb_check P x h.notAll E hone hseen (P.toKey o)
  rw [← toAsg_single P x hv o] at hchk
  cases hl : E.lookup (P.toKey o) with
  | none => exact Or.inl ⟨fun E' hone' => by rw [Cache.one_unique hone hone']; exact hl, by rw [hchk, hl]; rfl⟩
  | some f =>
    have hs := nby_serve P x D hk hv req y H E hone hE o ho f hl
    exact Or.inr ⟨(hs {}).1, by rw [hchk, hl]; rfl, fun n => (hs n).2⟩

/-- The cache layer of `viaR` for `x ↦ o`, with nothing assumed of the duplicate tracking sets: not stored, `onMiss` runs on
    the node with its keyed cache; stored, the entry is served (`serve`). -/
theorem viaR_one (hk : KeyOk P x D) {rvars : List VarId} (hv : OnlyX x rvars) (π : Path) (req : ReqFn) (y : Bool)
    (H : V → Bool) (o : V) (ho : o ∈ D x) (onMiss : St → List (Bnd V × Bool) × St)
    (acc : List (Bnd V × Bool) × St) (hspec : BSpecY P x D (getNode acc.2 π).rcache y H) :
    NBy P x D (keyR P rvars (getNode acc.2 π)).rcache y H ∧
    (((∀ E, Cache.One (keyR P rvars (getNode acc.2 π)).rcache (P.rank x) E → E.lookup (P.toKey o) = none) ∧
        viaR P true π req rvars onMiss acc [(x, o)] = onMiss (setNode acc.2 π (keyR P rvars (getNode acc.2 π)))) ∨
      ((y = false → H o = true) ∧
        viaR P true π req rvars onMiss acc [(x, o)] =
          (acc.1 ++ (serve P req [(x, o)] (!H o) (keyR P rvars (getNode acc.2 π))).1,
           setNode acc.2 π (serve P req [(x, o)] (!H o) (keyR P rvars (getNode acc.2 π))).2))) := by
  have hnb : NBy P x D (keyR P rvars (getNode acc.2 π)).rcache y H := nby_mkCache P x D hv hspec
  refine ⟨hnb, ?_⟩
  rcases nby_lookup P x D hk hv req hnb o ho with ⟨hfresh, hchk⟩ | ⟨hyw, hchk, hfc⟩
  · exact Or.inl ⟨hfresh, viaR_miss hchk⟩
  · exact Or.inr ⟨hyw, by rw [viaR_hit hchk, hfc]⟩

/-- A cache that is consulted with `x` UNBOUND (the left-most comparison of the query): untouched, or -
    after one complete pass - poisoned ("everything seen") and holding exactly the objects of the domain
    for which the node is true, in domain order. -/
def TSpec (c : Cache.Cache Nat Bool) (H : V → Bool) : Prop :=
  (c.keys = [] ∧ c.trie = .nil ∧ c.flat = [] ∧ c.seen.seen = [] ∧ c.seen.allSeen = false) ∨
  (c.flat = [] ∧ c.seen.allSeen = true ∧
    Cache.One c (P.rank x) (((D x).filter H).map fun o => (P.toKey o, false)))

/-- The objects a node yields an output for under the flag `y`. -/
def yObjs (y : Bool) (H : V → Bool) : List V := (D x).filter fun o => H o || y

theorem flatMap_singleOut_y (c : Cond V) (y : Bool) :
    (D x).flatMap (singleOut W c x y) =
      (yObjs x D y (Hc W c)).map fun o => (([(x, o)] : Bnd V), !Hc W c o) :=
  flatMap_ite_singleton (D x) (fun o => Hc W c o || y) fun o => ([(x, o)], !Hc W c o)

/-- A cache consulted with `x` UNBOUND by a node evaluated under the flag `y`: untouched, or - after one
    complete pass - poisoned and holding, in domain order, the output of every object that has one. -/
def TSpecY (c : Cache.Cache Nat Bool) (y : Bool) (H : V → Bool) : Prop :=
  (c.keys = [] ∧ c.trie = .nil ∧ c.flat = [] ∧ c.seen.seen = [] ∧ c.seen.allSeen = false) ∨
  (c.flat = [] ∧ c.seen.allSeen = true ∧
    Cache.One c (P.rank x) ((yObjs x D y H).map fun o => (P.toKey o, !H o)))

theorem yObjs_false_map (H : V → Bool) :
    (yObjs x D false H).map (fun o => (P.toKey o, !H o)) = ((D x).filter H).map fun o => (P.toKey o, false) := by
  have : (fun o => H o || false) = H := funext fun o => Bool.or_false (H o)
  rw [yObjs, this]
  exact List.map_congr_left fun o ho => by rw [(List.mem_filter.1 ho).2]; rfl

theorem tspec_iff_tspecY (c : Cache.Cache Nat Bool) (H : V → Bool) : TSpec P x D c H ↔ TSpecY P x D c false H := by
  rw [TSpec, TSpecY, yObjs_false_map]

theorem fold_upd_fresh : ∀ (L : List Nat) (E : List (Nat × Bool)), L.Nodup → (∀ v ∈ L, E.lookup v = none) →
    L.foldl (fun E v => Cache.upd E v false) E = E ++ L.map fun v => (v, false) := by
  intro L E hnd hfresh
  exact Cache.foldl_upd_fresh id (fun _ => false) L E (by rwa [List.map_id]) hfresh

variable {P W D} in
theorem evalM_cmp_hit {op : CmpOp} {l r : Term V} {π : Path} {req : ReqFn} {β : Bnd V} {y : Bool} {st : St}
    {c' : Cache.Cache Nat Bool}
    (hc : (mkCache P (l.vars ++ r.vars) (getNode st π).cache).check (toAsg P (l.vars ++ r.vars) β) = (true, c')) :
    evalM W D P true (.cmp op l r) π req β y st =
      ((fromCache P req (l.vars ++ r.vars) c' β { getNode st π with cache := c' }).1,
       setNode st π (fromCache P req (l.vars ++ r.vars) c' β { getNode st π with cache := c' }).2) := by
  simp only [evalM, if_true, hc]

variable {P W D} in
theorem evalM_cmp_miss {op : CmpOp} {l r : Term V} {π : Path} {req : ReqFn} {β : Bnd V} {y : Bool} {st : St}
    {c' : Cache.Cache Nat Bool}
    (hc : (mkCache P (l.vars ++ r.vars) (getNode st π).cache).check (toAsg P (l.vars ++ r.vars) β) = (false, c')) :
    evalM W D P true (.cmp op l r) π req β y st =
      (evalCond W D (.cmp op l r) β y,
        setNode st π { getNode st π with
          cache := (evalCond W D (.cmp op l r) β y).foldl
            (fun c p => c.insert (toAsg P (l.vars ++ r.vars) p.1) p.2) c' }) := by
  simp only [evalM, if_true, hc, Bool.false_eq_true, if_false]

/-- The same for a comparison node and its own cache: computed and stored, or served. -/
theorem cmp_one (hk : KeyOk P x D) (op : CmpOp) (l r : Term V) (hv : OnlyX x (l.vars ++ r.vars))
    (hf : (Cond.cmp op l r).noFlat = true) (hs : Cond.single x (.cmp op l r)) (y : Bool) (o : V) (ho : o ∈ D x)
    (π : Path) (req : ReqFn) (st : St) (hspec : BSpecY P x D (getNode st π).cache y (Hc W (.cmp op l r))) :
    ∃ c', NBy P x D c' y (Hc W (.cmp op l r)) ∧
      (evalM W D P true (.cmp op l r) π req [(x, o)] y st =
          (singleOut W (.cmp op l r) x y o, setNode st π { getNode st π with cache := c' }) ∨
        ((y = false → Hc W (.cmp op l r) o = true) ∧
          evalM W D P true (.cmp op l r) π req [(x, o)] y st =
            ((serve P req [(x, o)] (!Hc W (.cmp op l r) o) { getNode st π with cache := c' }).1,
             setNode st π (serve P req [(x, o)] (!Hc W (.cmp op l r) o) { getNode st π with cache := c' }).2))) := by
  have hnb := nby_mkCache P x D hv hspec
  rcases nby_lookup P x D hk hv req hnb o ho with ⟨hfresh, hchk⟩ | ⟨hyw, hchk, hfc⟩
  · refine ⟨_, nby_store P x D hv hnb o ho hfresh, Or.inl ?_⟩
    rw [evalM_cmp_miss hchk, cond_at W D x _ hf hs y o]
    rfl
  · exact ⟨_, hnb, Or.inr ⟨hyw, by rw [evalM_cmp_hit hchk, hfc]⟩⟩

theorem cmp_top_first [Inhabited V] (hk : KeyOk P x D) (op : CmpOp) (l r : Term V)
    (hv : OnlyX x (l.vars ++ r.vars)) (hf : (Cond.cmp op l r).noFlat = true) (hs : Cond.single x (.cmp op l r))
    (y : Bool) (π : Path) (req : ReqFn) (st : St)
    (h : (getNode st π).cache.keys = [] ∧ (getNode st π).cache.trie = .nil ∧ (getNode st π).cache.flat = [] ∧
      (getNode st π).cache.seen.seen = [] ∧ (getNode st π).cache.seen.allSeen = false) :
    ∃ c', evalM W D P true (.cmp op l r) π req [] y st =
        ((D x).flatMap (singleOut W (.cmp op l r) x y), setNode st π { getNode st π with cache := c' }) ∧
      TSpecY P x D c' y (Hc W (.cmp op l r)) := by
  obtain ⟨h1, h2, h3, _, h5⟩ := h
  let c1 : Cache.Cache Nat Bool := { (getNode st π).cache with keys := [P.rank x] }
  have hchk : (mkCache P (l.vars ++ r.vars) (getNode st π).cache).check (toAsg P (l.vars ++ r.vars) ([] : Bnd V)) =
      (false, { c1 with seen := { seen := c1.seen.seen ++ [[]], allSeen := true } }) := by
    rw [mkCache_untouched P x hv h1 h2 h3, toAsg_nil]
    exact Cache.check_nil h5
  have hkeys : ((yObjs x D y (Hc W (.cmp op l r))).map P.toKey).Nodup :=
    List.pairwise_map.2 (List.Pairwise.imp_of_mem
      (fun ha hb hne e => hne (hk.inj _ (List.mem_filter.1 ha).1 _ (List.mem_filter.1 hb).1 e)) (hk.nodup.filter _))
  -- the outputs are stored one after the other, in a cache that the unbound lookup has poisoned
  obtain ⟨f1, f2, f3⟩ := Cache.foldl_insert_one P.toKey (fun o => !Hc W (.cmp op l r) o)
    (yObjs x D y (Hc W (.cmp op l r))) (c := { c1 with seen := { seen := c1.seen.seen ++ [[]], allSeen := true } })
    (E := []) ⟨rfl, h2⟩ rfl
  rw [Cache.foldl_upd_fresh _ _ _ _ hkeys fun _ _ => rfl] at f1
  refine ⟨_, ?_, Or.inr ⟨f3.trans h3, f2 ▸ rfl, f1⟩⟩
  rw [evalM_cmp_miss hchk, cond_dist W D x _ hf hs y, flatMap_singleOut_y, List.foldl_map]
  simp only [toAsg_single P x hv]

theorem flatMap_singleOut (c : Cond V) (L : List V) :
    L.flatMap (singleOut W c x false) = (L.filter (Hc W c)).map fun o => ([(x, o)], false) := by
  rw [← flatMap_ite_singleton]
  exact flatMap_congr_mem fun o _ => by
    show closedOut [(x, o)] (Hc W c o) false = _
    cases Hc W c o <;> rfl

theorem flatMap_and (l r : Cond V) (L : List V) :
    (L.filter (Hc W l)).flatMap (singleOut W r x false) = L.flatMap (singleOut W (.and l r) x false) := by
  rw [← flatMap_ite]
  exact flatMap_congr_mem fun o _ => by
    show _ = closedOut [(x, o)] (Hc W l o && Hc W r o) false
    cases Hc W l o <;> rfl

/-- The caches of a conjunctive condition all of whose nodes are consulted with `x` bound. -/
def CInvB : Cond V → Path → St → Prop
  | .cmp op l r, π, st => BSpec P x D (getNode st π).cache (Hc W (.cmp op l r))
  | .and l r, π, st => BSpec P x D (getNode st π).rcache (Hc W r) ∧ CInvB l (0 :: π) st ∧ CInvB r (1 :: π) st
  | _, _, _ => True

/-- The caches of a conjunctive condition whose left-most leaf is consulted with `x` unbound. -/
def CInvT : Cond V → Path → St → Prop
  | .cmp op l r, π, st => TSpec P x D (getNode st π).cache (Hc W (.cmp op l r))
  | .and l r, π, st => BSpec P x D (getNode st π).rcache (Hc W r) ∧ CInvT l (0 :: π) st ∧ CInvB P x W D r (1 :: π) st
  | _, _, _ => True

theorem cinvB_local : ∀ (c : Cond V) (π : Path), CacheLocal π (CInvB P x W D c π) := by
  intro c
  induction c with
  | cmp op l r => intro π; exact cacheLocal_cache π fun c => BSpec P x D c (Hc W (.cmp op l r))
  | and l r ihl ihr =>
    intro π
    exact cacheLocal_and (cacheLocal_rcache π fun c => BSpec P x D c (Hc W r))
      (cacheLocal_and (cacheLocal_child (ihl _)) (cacheLocal_child (ihr _)))
  | truth _ _ | pred _ _ _ | elseIf _ _ _ _ | sub _ _ _ => intro π; exact cacheLocal_true π

theorem cinvT_local : ∀ (c : Cond V) (π : Path), CacheLocal π (CInvT P x W D c π) := by
  intro c
  induction c with
  | cmp op l r => intro π; exact cacheLocal_cache π fun c => TSpec P x D c (Hc W (.cmp op l r))
  | and l r ihl _ =>
    intro π
    exact cacheLocal_and (cacheLocal_rcache π fun c => BSpec P x D c (Hc W r))
      (cacheLocal_and (cacheLocal_child (ihl _)) (cacheLocal_child (cinvB_local P x W D r _)))
  | truth _ _ | pred _ _ _ | elseIf _ _ _ _ | sub _ _ _ => intro π; exact cacheLocal_true π

theorem cinvB_nil : ∀ (c : Cond V) (π : Path), CInvB P x W D c π ([] : St) := by
  intro c
  induction c with
  | cmp op l r => intro π; exact Or.inl ⟨rfl, rfl, rfl, rfl, rfl⟩
  | and l r ihl ihr => intro π; exact ⟨Or.inl ⟨rfl, rfl, rfl, rfl, rfl⟩, ihl _, ihr _⟩
  | truth _ _ | pred _ _ _ | elseIf _ _ _ _ | sub _ _ _ => intro _; trivial

theorem cinvT_nil : ∀ (c : Cond V) (π : Path), CInvT P x W D c π ([] : St) := by
  intro c
  induction c with
  | cmp op l r => intro π; exact Or.inl ⟨rfl, rfl, rfl, rfl, rfl⟩
  | and l r ihl _ => intro π; exact ⟨Or.inl ⟨rfl, rfl, rfl, rfl, rfl⟩, ihl _, cinvB_nil P x W D r _⟩
  | truth _ _ | pred _ _ _ | elseIf _ _ _ _ | sub _ _ _ => intro _; trivial

/-- What the evaluation of a right operand with `x` bound has to deliver (induction hypothesis). -/
def BoundOk (cnd : Cond V) (ρ : Path) (ev : Bnd V → St → List (Bnd V × Bool) × St) : Prop :=
  ∀ o ∈ D x, ∀ s, CInvB P x W D cnd ρ s →
    (ev [(x, o)] s).1 = singleOut W cnd x false o ∧ CInvB P x W D cnd ρ (ev [(x, o)] s).2 ∧
    FrameOn s (ev [(x, o)] s).2 (InSub ρ)

/-- The state after `n` consecutive evaluations with the cache enabled. -/
def afterEvalsOn (q : Query V) : Nat → St → St
  | 0, s => s
  | n + 1, s => afterEvalsOn q n (rowsM W D P true q s).2

theorem rowsM_iter (q : Query V) (I : St → Prop)
    (h : ∀ st, I st → (rowsM W D P true q st).1 = rows W D q ∧ I (rowsM W D P true q st).2) :
    ∀ (n : Nat) (st : St), I st → (rowsM W D P true q (afterEvalsOn P W D q n st)).1 = rows W D q := by
  intro n
  induction n with
  | zero => exact fun st hst => (h st hst).1
  | succ n ih => exact fun st hst => ih _ (h st hst).2

variable [BEq V]

theorem cmp_bound (hk : KeyOk P x D) (op : CmpOp) (l r : Term V) (hv : OnlyX x (l.vars ++ r.vars))
    (hf : (Cond.cmp op l r).noFlat = true) (hs : Cond.single x (.cmp op l r)) (o : V) (ho : o ∈ D x)
    (π : Path) (req : ReqFn) (st : St)
    (hspec : BSpec P x D (getNode st π).cache (fun o => denote W (constAsg o) (.cmp op l r))) :
    ∃ c', evalM W D P true (.cmp op l r) π req [(x, o)] false st =
        (singleOut W (.cmp op l r) x false o, setNode st π { getNode st π with cache := c' }) ∧
      NB P x D c' (fun o => denote W (constAsg o) (.cmp op l r)) := by
  obtain ⟨c', hnb, he | ⟨hyw, he⟩⟩ := cmp_one P x W D hk op l r hv hf hs false o ho π req st
    ((bspec_iff_bspecY P x D _ _).1 hspec)
  · exact ⟨c', he, (nb_iff_nby P x D _ _).2 hnb⟩
  · exact ⟨c', by rw [he, serve_of_holds P x W req _ o _ (hyw rfl)], (nb_iff_nby P x D _ _).2 hnb⟩

/-- A comparison node consulted with `x` unbound (the left-most leaf): it yields the L1 outputs over
    the whole domain - computing and storing them the first time, serving them from the cache afterwards. -/
theorem cmp_top [Inhabited V] (hk : KeyOk P x D) (op : CmpOp) (l r : Term V) (hv : OnlyX x (l.vars ++ r.vars))
    (hf : (Cond.cmp op l r).noFlat = true) (hs : Cond.single x (.cmp op l r))
    (π : Path) (req : ReqFn) (st : St)
    (hspec : TSpec P x D (getNode st π).cache (fun o => denote W (constAsg o) (.cmp op l r))) :
    ∃ c', evalM W D P true (.cmp op l r) π req [] false st =
        ((D x).flatMap (singleOut W (.cmp op l r) x false), setNode st π { getNode st π with cache := c' }) ∧
      TSpec P x D c' (fun o => denote W (constAsg o) (.cmp op l r)) := by
  rcases hspec with h | ⟨h3, hall, hone⟩
  · obtain ⟨c', he, hts⟩ := cmp_top_first P x W D hk op l r hv hf hs false π req st h
    exact ⟨c', he, (tspec_iff_tspecY P x D _ _).2 hts⟩
  · refine ⟨(getNode st π).cache, ?_, Or.inr ⟨h3, hall, hone⟩⟩
    rw [evalM_cmp_hit (by rw [mkCache_one P _ hone]; exact Cache.check_allSeen hall _),
      fromCache_free P x D hk hv req (fun _ => false) (fun o ho => (List.mem_filter.1 ho).1) hone,
      serveAll_false P req _ _ fun e he => by obtain ⟨o, _, rfl⟩ := List.mem_map.1 he; rfl]
    exact congrArg (·, _) (flatMap_singleOut x W _ _).symm

theorem andStep_one (hk : KeyOk P x D) (π : Path) (req : ReqFn) (r : Cond V) (hv : OnlyX x r.vars)
    (evalR : Bnd V → St → List (Bnd V × Bool) × St) (hR : BoundOk P x W D r (1 :: π) evalR)
    (acc : List (Bnd V × Bool) × St) (o : V) (ho : o ∈ D x)
    (hspec : BSpec P x D (getNode acc.2 π).rcache (Hc W r)) (hinv : CInvB P x W D r (1 :: π) acc.2) :
    (andStep P true π req false r.vars evalR acc ([(x, o)], false)).1 = acc.1 ++ singleOut W r x false o ∧
    BSpec P x D (getNode (andStep P true π req false r.vars evalR acc ([(x, o)], false)).2 π).rcache (Hc W r) ∧
    CInvB P x W D r (1 :: π) (andStep P true π req false r.vars evalR acc ([(x, o)], false)).2 ∧
    FrameOn acc.2 (andStep P true π req false r.vars evalR acc ([(x, o)], false)).2
      (fun π' => π' = π ∨ InSub (1 :: π) π') := by
  have hRπ : (fun π' => π' = π ∨ InSub (1 :: π) π') π := Or.inl rfl
  have hset : ∀ {s : St} (n : NodeSt), CInvB P x W D r (1 :: π) s → CInvB P x W D r (1 :: π) (setNode s π n) :=
    fun n h => (cinvB_local P x W D r _).frame (fun π' hp => getNode_setNode_ne _ _ _ _
      (fun e => not_inSub_child_self 1 π (e ▸ hp))) h
  rw [andStep_via rfl]
  obtain ⟨hnb, ⟨hfresh, he⟩ | ⟨hyw, he⟩⟩ := viaR_one P x D hk hv π req false (Hc W r) o ho
    (andMiss P true π r.vars evalR acc.1 [(x, o)]) acc ((bspec_iff_bspecY P x D _ _).1 hspec)
  · -- not stored: the right operand runs under the state in which the node carries its (keyed) cache; its output is stored
    obtain ⟨r1, r2, r3⟩ := hR o ho _ (hset (keyR P r.vars (getNode acc.2 π)) hinv)
    have hnode := (r3 π (not_inSub_child_self 1 π)).trans (getNode_setNode_self _ _ _)
    rw [he]
    simp only [andMiss, if_true, r1, hnode, getNode_setNode_self]
    exact ⟨trivial, Or.inr ((nb_iff_nby P x D _ _).2 (nby_store P x D hv hnb o ho hfresh)), hset _ r2,
      frameOn_trans (frameOn_setNode _ _ _ _ hRπ) (frameOn_trans (frameOn_sub r3 (fun π' h => Or.inr h))
        (frameOn_setNode _ _ _ _ hRπ))⟩
  · -- stored (so true): served from the AND's cache
    rw [he, serve_of_holds P x W req r o _ (hyw rfl), getNode_setNode_self]
    exact ⟨rfl, Or.inr ((nb_iff_nby P x D _ _).2 hnb), hset _ hinv, frameOn_setNode _ _ _ _ hRπ⟩

theorem andFold_one (hk : KeyOk P x D) (π : Path) (req : ReqFn) (r : Cond V) (hv : OnlyX x r.vars)
    (evalR : Bnd V → St → List (Bnd V × Bool) × St) (hR : BoundOk P x W D r (1 :: π) evalR) :
    ∀ (L : List V), (∀ o ∈ L, o ∈ D x) → ∀ (acc : List (Bnd V × Bool) × St),
      BSpec P x D (getNode acc.2 π).rcache (Hc W r) → CInvB P x W D r (1 :: π) acc.2 →
      ∃ s', (L.map fun o => (([(x, o)] : Bnd V), false)).foldl (andStep P true π req false r.vars evalR) acc =
          (acc.1 ++ L.flatMap (singleOut W r x false), s') ∧
        BSpec P x D (getNode s' π).rcache (Hc W r) ∧ CInvB P x W D r (1 :: π) s' ∧
        FrameOn acc.2 s' (RegR π) := by
  intro L
  induction L with
  | nil => intro _ acc h1 h2; exact ⟨acc.2, Prod.ext (List.append_nil _).symm rfl, h1, h2, frameOn_refl _ _⟩
  | cons o os ih =>
    intro hL acc h1 h2
    obtain ⟨a1, a2, a3, a4⟩ := andStep_one P x W D hk π req r hv evalR hR acc o (hL o List.mem_cons_self) h1 h2
    obtain ⟨s', i1, i2, i3, i4⟩ := ih (fun o' ho' => hL o' (List.mem_cons_of_mem _ ho')) _ a2 a3
    exact ⟨s', by rw [List.map_cons, List.foldl_cons, i1, a1, List.flatMap_cons, List.append_assoc], i2, i3,
      frameOn_trans a4 i4⟩

/-- An AND node after its left operand; `I` is whatever is known of the left sub-tree (`CInvB` of `l` in bound
    position, `CInvT` in top position). -/
theorem andNode_one (hk : KeyOk P x D) (l r : Cond V) (hs : Cond.single x r) (π : Path) (req : ReqFn) (β : Bnd V)
    (s : St) (hR : BoundOk P x W D r (1 :: π) (fun b s => evalM W D P true r (1 :: π) (reqRightOfAnd req) b false s))
    {L : List V} (hL : ∀ o ∈ L, o ∈ D x)
    (hl : (evalM W D P true l (0 :: π) (reqLeftOfAnd r.vars req) β false s).1 = L.flatMap (singleOut W l x false))
    (hfr : FrameOn s (evalM W D P true l (0 :: π) (reqLeftOfAnd r.vars req) β false s).2 (InSub (0 :: π)))
    {I : St → Prop} (hI : CacheLocal (0 :: π) I)
    (hi : I (evalM W D P true l (0 :: π) (reqLeftOfAnd r.vars req) β false s).2)
    (hspec : BSpec P x D (getNode s π).rcache (Hc W r)) (hinv : CInvB P x W D r (1 :: π) s) :
    ∃ s', evalM W D P true (.and l r) π req β false s = (L.flatMap (singleOut W (.and l r) x false), s') ∧
      (BSpec P x D (getNode s' π).rcache (Hc W r) ∧ I s' ∧ CInvB P x W D r (1 :: π) s') ∧
      FrameOn s s' (InSub π) := by
  -- the left operand has left the node and the right sub-tree alone, the loop leaves the left sub-tree alone
  obtain ⟨s', f1, f2, f3, f4⟩ := andFold_one P x W D hk π req r (onlyX_single x r hs) _ hR
    (L.filter (Hc W l)) (fun o ho => hL o (List.mem_filter.1 ho).1)
    ([], (evalM W D P true l (0 :: π) (reqLeftOfAnd r.vars req) β false s).2)
    (by rw [hfr π (not_inSub_child_self 0 π)]; exact hspec)
    ((cinvB_local P x W D r _).frame
      (fun π' h => hfr π' fun h0 => inSub_children_disjoint (by decide) h0 h) hinv)
  rw [flatMap_singleOut] at hl
  refine ⟨s', ?_, ⟨f2, hI.frame (fun π' h => f4 π' fun hc => regR_not_left π π' hc h) hi, f3⟩,
    frameOn_trans (frameOn_sub hfr fun _ h => inSub_child h) (frameOn_sub f4 (regR_sub π))⟩
  rw [evalM, hl, f1, List.nil_append, flatMap_and]

/-- **Bound position.** A conjunctive single-variable condition evaluated with `x` bound, result cache
    enabled: the L1 outputs, whatever the caches hold (within their specification). -/
theorem bound_ok (hk : KeyOk P x D) : ∀ (c : Cond V), Cond.conj c = true → Cond.single x c → c.noFlat = true →
    ∀ (π : Path) (req : ReqFn), BoundOk P x W D c π (fun b s => evalM W D P true c π req b false s) := by
  intro c
  induction c with
  | cmp op l r =>
    intro _ hs hf π req o ho s hinv
    obtain ⟨c', he, hnb⟩ := cmp_bound P x W D hk op l r (onlyX_of_single_cmp x hs) hf hs o ho π req s hinv
    simp only [he]
    exact ⟨trivial, Or.inr (by rw [getNode_setNode_self]; exact hnb), frameOn_setNode _ _ _ _ (inSub_refl π)⟩
  | truth _ _ | pred _ _ _ =>
    intro _ hs hf π req o ho s _
    exact ⟨cond_at W D x _ hf hs false o, trivial, frameOn_refl _ _⟩
  | and l r ihl ihr =>
    intro hc hs hf π req o ho s hinv
    simp only [Cond.conj, Bool.and_eq_true] at hc
    simp only [Cond.noFlat, Bool.and_eq_true] at hf
    obtain ⟨l1, l2, l3⟩ := ihl hc.1 hs.1 hf.1 (0 :: π) (reqLeftOfAnd r.vars req) o ho s hinv.2.1
    obtain ⟨s', he, a2, a3⟩ := andNode_one P x W D hk l r hs.2 π req [(x, o)] s (ihr hc.2 hs.2 hf.2 (1 :: π) _)
      (L := [o]) (fun _ h => List.mem_singleton.1 h ▸ ho) (l1.trans (List.flatMap_singleton ..).symm) l3
      (cinvB_local P x W D l _) l2 hinv.1 hinv.2.2
    simp only [he]
    exact ⟨List.flatMap_singleton .., a2, a3⟩
  | elseIf _ _ _ _ | sub _ _ _ => intro hc; cases hc

/-- **Top position.** A conjunctive single-variable condition evaluated with `x` unbound (the way a query
    evaluates it), result cache enabled: the L1 outputs over the whole domain, in order - computed and
    stored on the first pass, served from the caches on later passes. -/
theorem top_ok [Inhabited V] (hk : KeyOk P x D) : ∀ (c : Cond V), Cond.conj c = true → Cond.single x c →
    c.noFlat = true → ∀ (π : Path) (req : ReqFn) (s : St), CInvT P x W D c π s →
      (evalM W D P true c π req [] false s).1 = (D x).flatMap (singleOut W c x false) ∧
      CInvT P x W D c π (evalM W D P true c π req [] false s).2 ∧
      FrameOn s (evalM W D P true c π req [] false s).2 (InSub π) := by
  intro c
  induction c with
  | cmp op l r =>
    intro _ hs hf π req s hinv
    obtain ⟨c', he, hts⟩ := cmp_top P x W D hk op l r (onlyX_of_single_cmp x hs) hf hs π req s hinv
    rw [he]
    exact ⟨rfl, by rw [CInvT, getNode_setNode_self]; exact hts, frameOn_setNode _ _ _ _ (inSub_refl π)⟩
  | truth _ _ | pred _ _ _ =>
    intro _ hs hf π req s _
    exact ⟨cond_dist W D x _ hf hs false, trivial, frameOn_refl _ _⟩
  | and l r ihl _ =>
    intro hc hs hf π req s hinv
    simp only [Cond.conj, Bool.and_eq_true] at hc
    simp only [Cond.noFlat, Bool.and_eq_true] at hf
    obtain ⟨l1, l2, l3⟩ := ihl hc.1 hs.1 hf.1 (0 :: π) (reqLeftOfAnd r.vars req) s hinv.2.1
    obtain ⟨s', he, a2, a3⟩ := andNode_one P x W D hk l r hs.2 π req [] s
      (bound_ok P x W D hk r hc.2 hs.2 hf.2 (1 :: π) _) (fun _ h => h) l1 l3 (cinvT_local P x W D l _) l2
      hinv.1 hinv.2.2
    rw [he]
    exact ⟨rfl, a2, a3⟩
  | elseIf _ _ _ _ | sub _ _ _ => intro hc; cases hc

/-- **Result caching is transparent for conjunctive single-variable queries** (flatten-free, every leaf mentioning
    the variable, a domain of distinct objects: `KeyOk`).  One evaluation of
    `an(entity/set_of(sel, c))` by the stateful machine with the result cache ENABLED, from any state
    whose caches meet their specification (the fresh state; the state any number of earlier evaluations
    left behind), yields exactly the rows of the L1 evaluation, in order - and leaves such a state. -/
theorem rowsM_on_single [Inhabited V] (hk : KeyOk P x D) (q : Query V) (c : Cond V) (hq : q.cond = some c)
    (hc : Cond.conj c = true) (hs : Cond.single x c) (hf : c.noFlat = true) (st : St)
    (hst : CInvT P x W D c [] st) :
    (rowsM W D P true q st).1 = rows W D q ∧ CInvT P x W D c [] (rowsM W D P true q st).2 := by
  obtain ⟨h1, h2, _⟩ := top_ok P x W D hk c hc hs hf [] (fun _ => q.sel.flatMap Term.binds) st hst
  refine ⟨rowsM_of_outs W D P true q c hq st (h1.trans (cond_dist W D x c hf hs false).symm), ?_⟩
  simp only [rowsM, hq]
  exact (cinvT_local P x W D c _).reset h2

theorem rowsM_on_single_iter [Inhabited V] (hk : KeyOk P x D) (q : Query V) (c : Cond V) (hq : q.cond = some c)
    (hc : Cond.conj c = true) (hs : Cond.single x c) (hf : c.noFlat = true) :
    ∀ (n : Nat) (st : St), CInvT P x W D c [] st →
      (rowsM W D P true q (afterEvalsOn P W D q n st)).1 = rows W D q :=
  rowsM_iter P W D q _ (rowsM_on_single P x W D hk q c hq hc hs hf)

end Eql.Machine
