/-
  The variables and the flatten-freeness of a surface condition (`SCond.vars`, `SCond.noFlat`): `build` and
  `neg` keep both.
-/
import EqlModel.Build
import EqlModel.Syntax

namespace Eql
variable {V : Type}

def SCond.vars : SCond V → List VarId
  | .cmp _ l r => l.vars ++ r.vars
  | .in_ i c => i.vars ++ c.vars
  | .contains c i => c.vars ++ i.vars
  | .truth t => t.vars
  | .pred _ args => Terms.vars args
  | .and2 l r => l.vars ++ r.vars
  | .or2 l r => l.vars ++ r.vars
  | .not c => c.vars
  | .sub sel c => c.vars ++ Terms.vars sel

def SCond.noFlat : SCond V → Bool
  | .cmp _ l r => l.noFlat && r.noFlat
  | .in_ i c => i.noFlat && c.noFlat
  | .contains c i => c.noFlat && i.noFlat
  | .truth t => t.noFlat
  | .pred _ args => Terms.noFlat args
  | .and2 l r => l.noFlat && r.noFlat
  | .or2 l r => l.noFlat && r.noFlat
  | .not c => c.noFlat
  | .sub sel c => c.noFlat && Terms.noFlat sel

theorem neg_noFlat : ∀ (c : Cond V), (neg c).noFlat = c.noFlat := by
  intro c
  induction c with
  | cmp op l r | truth inv t | pred inv n args => rfl
  | and l r ihl ihr | elseIf l r ihl ihr =>
    show ((neg l).noFlat && (neg r).noFlat) = _
    rw [ihl, ihr]
    rfl
  | sub sel c ih => exact congrArg (· && _) ih

theorem neg_vars : ∀ (c : Cond V), (neg c).vars = c.vars := by
  intro c
  induction c with
  | cmp op l r | truth inv t | pred inv n args => rfl
  | and l r ihl ihr | elseIf l r ihl ihr =>
    show (neg l).vars ++ (neg r).vars = _
    rw [ihl, ihr]
    rfl
  | sub sel c ih => exact congrArg (· ++ _) ih

theorem buildCmp_shape (op : SurfOp) (l r : Term V) :
    ∃ op', buildCmp op l r = .cmp op' l r ∨ buildCmp op l r = .cmp op' r l := by
  unfold buildCmp
  dsimp only
  split <;> split
  · exact ⟨_, .inl rfl⟩
  · exact ⟨_, .inr rfl⟩
  · exact ⟨_, .inr rfl⟩
  · exact ⟨_, .inl rfl⟩

theorem build_noFlat : ∀ (c : SCond V), (build c).noFlat = c.noFlat := by
  intro c
  induction c with
  | cmp op l r =>
    obtain ⟨op', h | h⟩ := buildCmp_shape op l r <;> rw [build, h]
    · rfl
    · exact Bool.and_comm ..
  | in_ i c => exact Bool.and_comm ..
  | contains c i | truth t | pred n args => rfl
  | and2 l r ihl ihr | or2 l r ihl ihr => exact congr (congrArg _ ihl) ihr
  | not c ih => exact (neg_noFlat _).trans ih
  | sub sel c ih => exact congrArg (· && _) ih

/-- `build` keeps the variables, up to the order of the operands of a comparison. -/
theorem build_vars_perm : ∀ (c : SCond V), (build c).vars.Perm c.vars := by
  intro c
  induction c with
  | cmp op l r =>
    obtain ⟨op', h | h⟩ := buildCmp_shape op l r <;> rw [build, h]
    · exact .refl _
    · exact List.perm_append_comm
  | in_ i c => exact List.perm_append_comm
  | contains c i | truth t | pred n args => exact .refl _
  | and2 l r ihl ihr | or2 l r ihl ihr => exact ihl.append ihr
  | not c ih => exact (neg_vars _).symm ▸ ih
  | sub sel c ih => exact ih.append_right _

end Eql
