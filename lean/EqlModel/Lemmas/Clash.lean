/-
  The outputs of an L1 evaluation are pairwise separated when the domains list distinct objects.

  Proved once for any relation `R` between bindings that is inherited by extensions and holds between
  the bindings of one variable to two different positions of its domain (`Separates`).  Two instances:
  `Clash` (some variable bound to objects of different identity: a syntactic notion, for the duplicate
  tracking of the L2 machine) and `Inc` (no assignment extends both: a disjunction emits each row
  once and a fully selected query returns no row twice, C02).
-/
import EqlModel.Lemmas.Cond

namespace Eql
variable {V : Type}

/-- `R` is inherited by extensions and separates the objects of every domain. -/
structure Separates (D : VarId → List V) (R : Bnd V → Bnd V → Prop) : Prop where
  mono : ∀ {β1 β2 β1' β2'}, R β1 β2 → Sub β1 β1' → Sub β2 β2' → R β1' β2'
  dom  : ∀ v β, (D v).Pairwise fun a b => R ((v, a) :: β) ((v, b) :: β)

section
variable (W : World V) {D : VarId → List V} {R : Bnd V → Bnd V → Prop} (hR : Separates D R)
include hR

theorem pairwise_flatMap_of_sub {γ δ : Type} {l : List (Bnd V × γ)} {f : Bnd V × γ → List (Bnd V × δ)}
    (hl : l.Pairwise fun p q => R p.1 q.1)
    (hf : ∀ p ∈ l, (f p).Pairwise fun p q => R p.1 q.1)
    (hs : ∀ p ∈ l, ∀ x ∈ f p, Sub p.1 x.1) :
    (l.flatMap f).Pairwise fun p q => R p.1 q.1 :=
  List.pairwise_flatMap.2 ⟨hf, hl.imp_of_mem fun hp hq hc x hx y hy =>
    hR.mono hc (hs _ hp x hx) (hs _ hq y hy)⟩

theorem term_pairwise : ∀ (t : Term V), t.noFlat = true → ∀ (β : Bnd V),
    (evalTerm W D t β).Pairwise (fun p q => R p.1 q.1) := by
  intro t
  induction t with
  | var v =>
    intro _ β
    simp only [evalTerm]
    cases hl : β.lookup v with
    | some b => exact List.pairwise_singleton _ _
    | none => rw [List.pairwise_map]; exact hR.dom v β
  | lit c => intro _ β; exact List.pairwise_singleton _ _
  | attr _ t ih | index _ t ih | call _ _ t ih =>
    intro hf β; simp only [evalTerm, List.pairwise_map]; exact ih hf β
  | flatten _ _ _ | concat _ _ _ => intro hf; cases hf

theorem args_pairwise : ∀ (ts : List (Term V)), Terms.noFlat ts = true →
    ∀ (β : Bnd V), (evalArgs W D ts β).Pairwise (fun p q => R p.1 q.1) := by
  intro ts
  induction ts with
  | nil => intro _ β; exact List.pairwise_singleton _ _
  | cons t ts ih =>
    intro hf β
    simp only [Terms.noFlat, Bool.and_eq_true] at hf
    refine pairwise_flatMap_of_sub hR (term_pairwise W hR t hf.1 β) (fun p _ => ?_) fun p _ x hx => ?_
    · rw [List.pairwise_map]; exact ih hf.2 p.1
    · obtain ⟨q, hq, rfl⟩ := List.mem_map.1 hx
      exact args_sub W D ts hf.2 p.1 q.1 q.2 hq

theorem cond_pairwise : ∀ (c : Cond V), c.noFlat = true →
    ∀ (β : Bnd V) (ywf : Bool), (evalCond W D c β ywf).Pairwise (fun p q => R p.1 q.1) := by
  intro c
  induction c using Cond.leafInduction with
  | leaf c hl =>
    intro hf β ywf
    obtain ⟨ts, g, L⟩ := hl W D β
    rw [L.eval]
    refine pairwise_flatMap_of_sub hR (args_pairwise W hR ts (L.noFlat ▸ hf) β)
      (fun p _ => ?_) fun p _ x hx => ?_
    · unfold closedOut; split
      · exact List.pairwise_singleton _ _
      · exact List.Pairwise.nil
    · rw [(mem_closedOut.1 hx).1]; exact sub_refl _
  | and l r ihl ihr =>
    intro hf β ywf
    simp only [Cond.noFlat, Bool.and_eq_true] at hf
    simp only [evalCond]
    refine pairwise_flatMap_of_sub hR (ihl hf.1 β ywf) (fun p _ => ?_) fun p _ x hx => ?_
    · split
      · exact List.pairwise_singleton _ _
      · exact ihr hf.2 p.1 ywf
    · split at hx
      · rw [List.mem_singleton.1 hx]; exact sub_refl _
      · exact cond_sub W D r hf.2 p.1 x.1 x.2 ywf hx
  | elseIf l r ihl ihr =>
    intro hf β ywf
    simp only [Cond.noFlat, Bool.and_eq_true] at hf
    simp only [evalCond]
    split
    · exact ihr hf.2 β ywf
    · refine pairwise_flatMap_of_sub hR (ihl hf.1 β true) (fun p _ => ?_) fun p _ x hx => ?_
      · split
        · exact ihr hf.2 p.1 ywf
        · exact List.pairwise_singleton _ _
      · split at hx
        · exact cond_sub W D r hf.2 p.1 x.1 x.2 ywf hx
        · rw [List.mem_singleton.1 hx]; exact sub_refl _
  | sub sel c ih =>
    intro hf β ywf
    simp only [Cond.noFlat, Bool.and_eq_true] at hf
    simp only [evalCond]
    refine pairwise_flatMap_of_sub hR (ih hf.1 β ywf) (fun p _ => ?_) fun p _ x hx => ?_
    · rw [List.pairwise_map]; exact args_pairwise W hR sel hf.2 p.1
    · obtain ⟨q, hq, rfl⟩ := List.mem_map.1 hx
      exact args_sub W D sel hf.2 p.1 q.1 q.2 hq

end

/-- Two bindings clash: some variable is bound by both, to objects of different identity. -/
def Clash (key : V → Nat) (β β' : Bnd V) : Prop :=
  ∃ v a b, β.lookup v = some a ∧ β'.lookup v = some b ∧ key a ≠ key b

theorem clash_mono (key : V → Nat) {β1 β2 β1' β2' : Bnd V} (h : Clash key β1 β2) (s1 : Sub β1 β1')
    (s2 : Sub β2 β2') : Clash key β1' β2' := by
  obtain ⟨v, a, b, h1, h2, hne⟩ := h
  exact ⟨v, a, b, s1 v a h1, s2 v b h2, hne⟩

/-- Objects of a domain have distinct identities. -/
def KeysNodup (key : V → Nat) (D : VarId → List V) : Prop := ∀ v, ((D v).map key).Nodup

theorem separates_clash {key : V → Nat} {D : VarId → List V} (hD : KeysNodup key D) :
    Separates D (Clash key) where
  mono := clash_mono key
  dom v β := by
    have hn := List.nodup_iff_pairwise_ne.1 (hD v)
    rw [List.pairwise_map] at hn
    exact hn.imp fun {a b} hab => ⟨v, a, b, lookup_self, lookup_self, hab⟩

def Inc (β β' : Bnd V) : Prop := ∀ α, Ext β α → Ext β' α → False

theorem separates_inc {D : VarId → List V} (hD : ∀ v, (D v).Nodup) : Separates D Inc where
  mono h s1 s2 _ e1 e2 := h _ (ext_of_sub s1 e1) (ext_of_sub s2 e2)
  dom v _ := (List.nodup_iff_pairwise_ne.1 (hD v)).imp fun {a b} hab _ ea eb =>
    hab ((ea v a lookup_self).symm.trans (eb v b lookup_self))

end Eql
