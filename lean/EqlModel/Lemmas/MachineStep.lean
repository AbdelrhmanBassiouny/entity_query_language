/-
  L2: what the loop bodies of AND and ElseIf do, case by case (one equation of the model's step functions per form of
  the left value), and `Upd`: the relation between states in which the statements about duplicate tracking end.  They
  write it out, `FrameOn s s' R ∧ ∀ β₂, InvOn s R β₂ → Clash .. β₂ → InvOn s' R β₂`; their proofs give an `Upd` where
  that conjunction is asked for (the two are the same by definition) and use its algebra (`upd_trans`, `upd_grow`,
  `upd_setNode`, ..) and the loop `fold_upd`.
-/
import EqlModel.Lemmas.MachineState

namespace Eql.Machine
open Eql
variable {V : Type}
variable (P : Params V)

/-- The node with the cache of its right operand keyed (`mkCache`, at first use). -/
def keyR (rvars : List VarId) (n : NodeSt) : NodeSt := { n with rcache := mkCache P rvars n.rcache }

/-- The part `andStep` and `orStep` share.  A left value `b` is handed to the right operand through the node's cache:
    served from the cache when it covers `b`; otherwise `onMiss` runs on the state in which the node carries the
    keyed, consulted cache. -/
def viaR (caching : Bool) (π : Path) (req : ReqFn) (rvars : List VarId)
    (onMiss : St → List (Bnd V × Bool) × St) (acc : List (Bnd V × Bool) × St) (b : Bnd V) :
    List (Bnd V × Bool) × St :=
  let n := keyR P rvars (getNode acc.2 π)
  let chk := if caching then n.rcache.check (toAsg P rvars b) else (false, n.rcache)
  let n1 := { n with rcache := chk.2 }
  if chk.1 then
    let fc := fromCache P req rvars n1.rcache b n1
    (acc.1 ++ fc.1, setNode acc.2 π fc.2)
  else onMiss (setNode acc.2 π n1)

/-- What AND does when its cache does not cover the left value: the right operand runs, its outputs are stored. -/
def andMiss (caching : Bool) (π : Path) (rvars : List VarId) (evalR : Bnd V → St → List (Bnd V × Bool) × St)
    (out : List (Bnd V × Bool)) (b : Bnd V) (st1 : St) : List (Bnd V × Bool) × St :=
  let rr := evalR b st1
  let n2 := getNode rr.2 π
  let c2 := if caching then rr.1.foldl (fun c p => c.insert (toAsg P rvars p.1) p.2) n2.rcache else n2.rcache
  (out ++ rr.1, setNode rr.2 π { n2 with rcache := c2 })

/-- `s'` arises from `s` by a change confined to the region `R` that keeps `R` fine for every binding for which
    it was fine and which satisfies `C` (in every use: "clashes with the input(s) processed"). -/
def Upd (R : Path → Prop) (C : Bnd V → Prop) (s s' : St) : Prop :=
  FrameOn s s' R ∧ ∀ β₂ : Bnd V, InvOn P s R β₂ → C β₂ → InvOn P s' R β₂

variable {P}
variable {caching : Bool} {π : Path} {req : ReqFn} {ywf : Bool} {rvars : List VarId}
  {evalR : Bnd V → St → List (Bnd V × Bool) × St} {acc : List (Bnd V × Bool) × St} {b : Bnd V} {fl : Bool}

theorem andStep_fwd (h : (ywf && fl) = true)
    (hd : (isDup P req true b (keyR P rvars (getNode acc.2 π))).1 = false) :
    andStep P caching π req ywf rvars evalR acc (b, fl) =
      (acc.1 ++ [(b, true)], setNode acc.2 π (isDup P req true b (keyR P rvars (getNode acc.2 π))).2) := by
  simp only [keyR] at hd
  simp only [andStep, keyR, h, if_true, hd, Bool.false_eq_true, if_false]

theorem andStep_via (h : (ywf && fl) = false) :
    andStep P caching π req ywf rvars evalR acc (b, fl) =
      viaR P caching π req rvars (andMiss P caching π rvars evalR acc.1 b) acc b := by
  simp only [andStep, h, Bool.false_eq_true, if_false]; rfl

theorem orStep_fwd : orStep P caching π req ywf rvars evalR acc (b, false) = (acc.1 ++ [(b, false)], acc.2) := by
  simp only [orStep, Bool.false_eq_true, if_false]

theorem orStep_via :
    orStep P caching π req ywf rvars evalR acc (b, true) =
      viaR P caching π req rvars
        (fun st1 => (evalR b st1).1.foldl (orInner P caching π req ywf rvars) (acc.1, (evalR b st1).2)) acc b := by
  simp only [orStep, if_true]; rfl

variable {onMiss : St → List (Bnd V × Bool) × St} {c' : Cache.Cache Nat Bool}

theorem viaR_hit (hc : (keyR P rvars (getNode acc.2 π)).rcache.check (toAsg P rvars b) = (true, c')) :
    viaR P true π req rvars onMiss acc b =
      (acc.1 ++ (fromCache P req rvars c' b { keyR P rvars (getNode acc.2 π) with rcache := c' }).1,
       setNode acc.2 π (fromCache P req rvars c' b { keyR P rvars (getNode acc.2 π) with rcache := c' }).2) := by
  simp only [viaR, if_true, hc]

theorem viaR_miss (hc : (keyR P rvars (getNode acc.2 π)).rcache.check (toAsg P rvars b) = (false, c')) :
    viaR P true π req rvars onMiss acc b =
      onMiss (setNode acc.2 π { keyR P rvars (getNode acc.2 π) with rcache := c' }) := by
  simp only [viaR, if_true, hc, Bool.false_eq_true, if_false]

theorem viaR_off : viaR P false π req rvars onMiss acc b = onMiss (setNode acc.2 π (keyR P rvars (getNode acc.2 π))) := by
  simp only [viaR, Bool.false_eq_true, if_false]

variable {out : List (Bnd V × Bool)} {s : St}

/-- The flag of an output is `is_false`: `(b, true)` is a false output. -/
theorem orInner_false (hy : ywf = true) :
    orInner P caching π req ywf rvars (out, s) (b, true) =
      (out ++ [(b, true)], setNode s π { getNode s π with rcache :=
        (if caching then (getNode s π).rcache.insert (toAsg P rvars b) true else (getNode s π).rcache) }) := by
  simp only [orInner, hy, Bool.not_true, Bool.and_false, Bool.false_eq_true, if_false]

theorem orInner_true (hd : (isDup P req false b (getNode s π)).1 = false) :
    orInner P caching π req ywf rvars (out, s) (b, false) =
      (out ++ [(b, false)], setNode s π { (isDup P req false b (getNode s π)).2 with rcache :=
        (if caching then (isDup P req false b (getNode s π)).2.rcache.insert (toAsg P rvars b) false
        else (isDup P req false b (getNode s π)).2.rcache) }) := by
  simp only [orInner, Bool.false_and, Bool.false_eq_true, if_false, Bool.not_false, if_true, hd]

variable {R R' : Path → Prop} {C C' : Bnd V → Prop} {s s' s'' : St} {ρ : Path} {n : NodeSt} {β : Bnd V}

theorem upd_refl : Upd P R C s s := ⟨frameOn_refl _ _, fun _ h _ => h⟩

theorem upd_trans (h1 : Upd P R C s s') (h2 : Upd P R C s' s'') : Upd P R C s s'' :=
  ⟨frameOn_trans h1.1 h2.1, fun β₂ h hc => h2.2 β₂ (h1.2 β₂ h hc) hc⟩

theorem upd_weaken (h : Upd P R C s s') (hc : ∀ β₂, C' β₂ → C β₂) : Upd P R C' s s' :=
  ⟨h.1, fun β₂ hb hc' => h.2 β₂ hb (hc β₂ hc')⟩

theorem upd_grow (h : Upd P R C s s') (hr : ∀ π', R π' → R' π') : Upd P R' C s s' :=
  ⟨frameOn_sub h.1 hr, fun β₂ hb hc => invOn_extend P hb h.1 (h.2 β₂ (invOn_sub P hb hr) hc)⟩

theorem upd_setNode (hR : R ρ) (hn : ∀ β₂, NodeOk P (getNode s ρ) β₂ → C β₂ → NodeOk P n β₂) :
    Upd P R C s (setNode s ρ n) :=
  ⟨frameOn_setNode _ _ _ _ hR, fun β₂ hb hc => invOn_setNode P ρ n hb fun _ => hn β₂ (hb ρ hR) hc⟩

/-- Replacing a node's caches is a confined update: the tracking sets stay (`h1`, `h2`, closed by `rfl` at every call). -/
theorem upd_setNode_seen (hR : R ρ) (h1 : n.seenT = (getNode s ρ).seenT := by rfl)
    (h2 : n.seenF = (getNode s ρ).seenF := by rfl) : Upd P R C s (setNode s ρ n) :=
  upd_setNode hR fun _ h _ => nodeOk_congr P h1 h2 h

theorem invOn_setNode_seen (h : InvOn P s R β) (h1 : n.seenT = (getNode s ρ).seenT := by rfl)
    (h2 : n.seenF = (getNode s ρ).seenF := by rfl) : InvOn P (setNode s ρ n) R β :=
  invOn_setNode P ρ n h fun hR => nodeOk_congr P h1 h2 (h ρ hR)

/-- The loop of an AND / ElseIf node: the inputs pairwise clash, so the confined update of one step leaves the region
    fine for the inputs still to come.  `inp` lets the caller index inputs and outputs (`g`) by items of its own; `I`
    is an invariant of the caller's own. -/
theorem fold_upd {α : Type} (inp : α → Bnd V × Bool) (I : St → Prop) (R : Path → Prop)
    (g : α → List (Bnd V × Bool))
    (step : List (Bnd V × Bool) × St → Bnd V × Bool → List (Bnd V × Bool) × St) :
    ∀ (xs : List α), xs.Pairwise (fun a b => Clash P.toKey (inp a).1 (inp b).1) →
    (∀ acc a, a ∈ xs → I acc.2 → InvOn P acc.2 R (inp a).1 →
        (step acc (inp a)).1 = acc.1 ++ g a ∧ I (step acc (inp a)).2 ∧
        Upd P R (Clash P.toKey (inp a).1) acc.2 (step acc (inp a)).2) →
    ∀ acc, I acc.2 → (∀ a ∈ xs, InvOn P acc.2 R (inp a).1) →
      ((xs.map inp).foldl step acc).1 = acc.1 ++ xs.flatMap g ∧ I ((xs.map inp).foldl step acc).2 ∧
      Upd P R (fun β₂ => ∀ a ∈ xs, Clash P.toKey (inp a).1 β₂) acc.2 ((xs.map inp).foldl step acc).2 := by
  intro xs
  induction xs with
  | nil => intro _ _ acc hI _; exact ⟨by simp, hI, upd_refl⟩
  | cons x xs ih =>
    intro hp hstep acc hI hacc
    rw [List.pairwise_cons] at hp
    obtain ⟨h1, h2, h3⟩ := hstep acc x List.mem_cons_self hI (hacc x List.mem_cons_self)
    obtain ⟨i1, i2, i3⟩ := ih hp.2 (fun acc' y hy => hstep acc' y (List.mem_cons_of_mem _ hy)) (step acc (inp x)) h2
      (fun y hy => h3.2 _ (hacc y (List.mem_cons_of_mem _ hy)) (hp.1 y hy))
    refine ⟨?_, i2, upd_trans (upd_weaken h3 fun _ h => h x List.mem_cons_self)
      (upd_weaken i3 fun _ h y hy => h y (List.mem_cons_of_mem _ hy))⟩
    simp only [List.map_cons, List.foldl_cons, List.flatMap_cons]
    rw [i1, h1, List.append_assoc]

end Eql.Machine
