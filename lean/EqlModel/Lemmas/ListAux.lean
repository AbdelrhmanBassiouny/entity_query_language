/-
  Facts about core `List` functions that core Lean does not state in this form.
-/
namespace Eql

theorem flatMap_ite {γ δ : Type} (l : List γ) (p : γ → Bool) (g : γ → List δ) :
    l.flatMap (fun a => if p a then g a else []) = (l.filter p).flatMap g := by
  induction l with
  | nil => rfl
  | cons a as ih => cases h : p a <;> simp [List.filter, h, ih]

theorem flatMap_ite_singleton {γ δ : Type} (l : List γ) (p : γ → Bool) (f : γ → δ) :
    l.flatMap (fun a => if p a then [f a] else []) = (l.filter p).map f := by
  rw [flatMap_ite, List.map_eq_flatMap]

theorem flatMap_congr_mem {γ δ : Type} {l : List γ} {f g : γ → List δ} (h : ∀ a ∈ l, f a = g a) :
    l.flatMap f = l.flatMap g := by
  rw [List.flatMap_def, List.flatMap_def, List.map_congr_left h]

theorem lookup_cons_ne {α β : Type} [BEq α] [LawfulBEq α] (l : List (α × β)) {v w : α} (o : β) (h : w ≠ v) :
    List.lookup w ((v, o) :: l) = List.lookup w l := by
  rw [List.lookup_cons, beq_false_of_ne h]

theorem isEmpty_flatMap_of_nonempty {γ δ : Type} (l : List γ) (f : γ → List δ) (h : ∀ a, (f a).isEmpty = false) :
    (l.flatMap f).isEmpty = l.isEmpty := by
  cases l with
  | nil => rfl
  | cons a l =>
    rw [List.flatMap_cons]
    cases hfa : f a with
    | nil => have := h a; rw [hfa] at this; cases this
    | cons _ _ => rfl

theorem mem_foldl_filter_contains {γ δ : Type} [BEq γ] [LawfulBEq γ] (f : δ → List γ) (ps : List δ)
    (init : List γ) (d : γ) :
    d ∈ ps.foldl (fun acc p => acc.filter fun d => (f p).contains d) init ↔ d ∈ init ∧ ∀ p ∈ ps, d ∈ f p := by
  induction ps generalizing init with
  | nil => simp
  | cons p ps ih =>
    simp only [List.foldl_cons, ih, List.mem_filter, List.contains_iff_mem, List.forall_mem_cons, and_assoc]

theorem filterMap_eq_flatMap {γ δ : Type} (f : γ → Option δ) (l : List γ) :
    l.filterMap f = l.flatMap fun a => (f a).toList := by
  induction l with
  | nil => rfl
  | cons a l ih =>
    rw [List.filterMap_cons, List.flatMap_cons, ← ih]
    cases f a <;> rfl

/-- An association list made from the ids `ids`, id by id, through an injective renaming of the keys (`toAsg` of the L2
    machine, the restriction a for_all compares): looking a key up is looking its id up. -/
theorem lookup_filterMap_inj {ι κ α γ : Type} [DecidableEq ι] [BEq κ] [LawfulBEq κ] {key : ι → κ}
    (hinj : Function.Injective key) (val : α → γ) (f : ι → Option α) (k : ι) (ids : List ι) :
    (ids.filterMap fun j => (f j).map fun a => (key j, val a)).lookup (key k) =
      if k ∈ ids then (f k).map val else none := by
  induction ids with
  | nil => rfl
  | cons j js ih =>
    rw [List.filterMap_cons]
    by_cases e : k = j
    · subst e
      cases hf : f k with
      | none => simp only [Option.map_none, ih, hf, ite_self]
      | some a => simp only [Option.map_some, List.lookup_cons_self, List.mem_cons_self, if_true]
    · simp only [List.mem_cons, e, false_or]
      cases hf : f j with
      | none => exact ih
      | some a => exact (lookup_cons_ne _ _ fun h => e (hinj h)).trans ih

theorem foldl_fst_flatMap {α β σ : Type} (step : List β × σ → α → List β × σ) (g : α → List β)
    (h : ∀ acc a, (step acc a).1 = acc.1 ++ g a) :
    ∀ (xs : List α) (acc : List β × σ), (xs.foldl step acc).1 = acc.1 ++ xs.flatMap g := by
  intro xs
  induction xs with
  | nil => intro acc; simp
  | cons x xs ih =>
    intro acc
    simp only [List.foldl_cons, List.flatMap_cons]
    rw [ih, h, List.append_assoc]

theorem mem_of_lookup {α β : Type} [BEq α] [LawfulBEq α] (E : List (α × β)) (w : α) (f : β)
    (h : E.lookup w = some f) : (w, f) ∈ E := by
  obtain ⟨l₁, l₂, rfl, _⟩ := List.lookup_eq_some_iff.1 h
  exact List.mem_append_right _ List.mem_cons_self

theorem lookup_filter_ne {α β : Type} [BEq α] [LawfulBEq α] (l : List (α × β)) {k k' : α} (h : k' ≠ k) :
    List.lookup k' (l.filter fun p => p.1 != k) = List.lookup k' l := by
  induction l with
  | nil => rfl
  | cons p rest ih =>
    rw [List.filter_cons]
    split
    · rw [List.lookup_cons, List.lookup_cons, ih]
    · next hk =>
      have hk' : k' ≠ p.1 := fun e => hk (bne_iff_ne.2 (e ▸ h))
      rw [ih, lookup_cons_ne _ _ hk']

end Eql
