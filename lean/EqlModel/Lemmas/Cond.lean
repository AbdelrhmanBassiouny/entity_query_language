/-
  The flatten-free case of `Lemmas/Flat.lean` and `Lemmas/FlatAdm.lean`, in the form most property theorems and
  the L2 machine use: the ids an expression binds are its variables, an assignment is admissible when every
  variable takes a value of its domain, and the invariant of the bindings is `BOk`.  With uniform disjunctions
  (`Cond.uniformOr`) a true output binds every variable and, read as an assignment, is a solution
  (`true_output_total`, `true_output_asg`: for_all and the rule trees rest on it).
-/
import EqlModel.Lemmas.FlatAdm

namespace Eql
variable {V : Type}

/-- Every disjunction mentions the same variables on both sides. -/
def Cond.uniformOr : Cond V → Prop
  | .cmp _ _ _ => True
  | .truth _ _ => True
  | .pred _ _ _ => True
  | .and l r => Cond.uniformOr l ∧ Cond.uniformOr r
  | .elseIf l r => (∀ v, v ∈ l.vars ↔ v ∈ r.vars) ∧ Cond.uniformOr l ∧ Cond.uniformOr r
  | .sub _ c => Cond.uniformOr c

theorem uniformB_of_uniformOr : ∀ (c : Cond V), c.noFlat = true → c.uniformOr → c.uniformB := by
  intro c
  induction c with
  | cmp op l r | truth inv t | pred inv n args => exact fun _ _ => trivial
  | and l r ihl ihr =>
    intro hf hu; simp only [Cond.noFlat, Bool.and_eq_true] at hf
    exact ⟨ihl hf.1 hu.1, ihr hf.2 hu.2⟩
  | elseIf l r ihl ihr =>
    intro hf hu; simp only [Cond.noFlat, Bool.and_eq_true] at hf
    exact ⟨(Cond.okF_of_noFlat hf.1).2.1 ▸ (Cond.okF_of_noFlat hf.2).2.1 ▸ hu.1, ihl hf.1 hu.2.1, ihr hf.2 hu.2.2⟩
  | sub sel c ih =>
    intro hf hu; simp only [Cond.noFlat, Bool.and_eq_true] at hf
    exact ih hf.1 hu

variable (W : World V) (D : VarId → List V)

theorem adm_iff_bok (β : Bnd V) : Adm W D (fun _ => none) β ↔ BOk D β :=
  ⟨fun h v a hl => (h v a hl).1 rfl, fun h v a hl => ⟨fun _ => h v a hl, fun _ ht => nomatch ht⟩⟩

theorem args_sound (ts : List (Term V)) (hf : Terms.noFlat ts = true) (β β' : Bnd V) (as : List V)
    (h : (β', as) ∈ evalArgs W D ts β) (α : Asg V) (hα : Ext β' α) : Ext β α ∧ termsVal W α ts = as :=
  args_sound_f W D ts (Terms.okF_of_noFlat hf).1 β β' as h α hα

theorem args_complete (ts : List (Term V)) (hf : Terms.noFlat ts = true) (β : Bnd V) (α : Asg V)
    (hα : Ext β α) (hd : ∀ v ∈ Terms.vars ts, α v ∈ D v) : ∃ p ∈ evalArgs W D ts β, Ext p.1 α :=
  args_complete_f W D ts (Terms.okF_of_noFlat hf).1 β α hα ((termsOk_of_noFlat W D α hf).2 hd)

theorem args_sub (ts : List (Term V)) (hf : Terms.noFlat ts = true) (β β' : Bnd V) (as : List V)
    (h : (β', as) ∈ evalArgs W D ts β) : Sub β β' :=
  args_sub_f W D ts (Terms.okF_of_noFlat hf).1 β β' as h

theorem args_bok (ts : List (Term V)) (hf : Terms.noFlat ts = true) (β β' : Bnd V) (as : List V)
    (hb : BOk D β) (h : (β', as) ∈ evalArgs W D ts β) : BOk D β' :=
  have ⟨hok, _, hsh⟩ := Terms.okF_of_noFlat hf
  (adm_iff_bok W D β').1 (args_adm W D _ ts hok hsh β β' as ((adm_iff_bok W D β).2 hb) h)

theorem args_supp (ts : List (Term V)) (hf : Terms.noFlat ts = true) (β β' : Bnd V) (as : List V)
    (h : (β', as) ∈ evalArgs W D ts β) (w : VarId) :
    bound β' w = true ↔ (bound β w = true ∨ w ∈ Terms.vars ts) := by
  obtain ⟨hok, hb, hsh⟩ := Terms.okF_of_noFlat hf
  have g := (args_out W D ts hok β β' as h).1
  have c := (args_covers W D _ ts hok hsh β β' as (fun _ _ ht => nomatch ht) h).2
  rw [hb] at g c
  exact ⟨g.2 w, fun hw => hw.elim (bound_of_sub g.1) (c w)⟩

theorem cond_sound (c : Cond V) (hf : c.noFlat = true) (β β' : Bnd V) (f ywf : Bool)
    (h : (β', f) ∈ evalCond W D c β ywf) (α : Asg V) (hadm : ∀ v ∈ c.vars, α v ∈ D v) (hext : Ext β' α) :
    Ext β α ∧ denote W α c = !f :=
  ((cond_sound_complete_f W D c (Cond.okF_of_noFlat hf).1).1 β β' f ywf h).2 α ((condOk_of_noFlat W D α hf).2 hadm) hext

theorem cond_complete (c : Cond V) (hf : c.noFlat = true) (β : Bnd V) (α : Asg V) (ywf : Bool) (hext : Ext β α)
    (hadm : ∀ v ∈ c.vars, α v ∈ D v) (hy : ywf = true ∨ denote W α c = true) :
    ∃ p ∈ evalCond W D c β ywf, Ext p.1 α :=
  (cond_sound_complete_f W D c (Cond.okF_of_noFlat hf).1).2 β α ywf hext ((condOk_of_noFlat W D α hf).2 hadm) hy

theorem cond_complete_true (c : Cond V) (hf : c.noFlat = true) (β : Bnd V) (α : Asg V) (hext : Ext β α)
    (hadm : ∀ v ∈ c.vars, α v ∈ D v) (hden : denote W α c = true) :
    ∃ β', (β', false) ∈ evalCond W D c β false ∧ Ext β' α := by
  obtain ⟨q, hq, he⟩ := cond_complete W D c hf β α false hext hadm (Or.inr hden)
  exact ⟨q.1, evalCond_flag W D c hq ▸ hq, he⟩

theorem cond_frame (c : Cond V) (hf : c.noFlat = true) (β β' : Bnd V) (f ywf : Bool)
    (h : (β', f) ∈ evalCond W D c β ywf) (k : VarId) (hk : k ∉ c.vars) : β'.lookup k = β.lookup k := by
  obtain ⟨hok, hb, _⟩ := Cond.okF_of_noFlat hf
  exact ((cond_spec W D c hok).1 β β' f ywf h).1.frame (hb ▸ hk)

theorem cond_sub (c : Cond V) (hf : c.noFlat = true) (β β' : Bnd V) (f ywf : Bool)
    (h : (β', f) ∈ evalCond W D c β ywf) : Sub β β' :=
  ((cond_spec W D c (Cond.okF_of_noFlat hf).1).1 β β' f ywf h).1.1

theorem cond_supp (c : Cond V) (hf : c.noFlat = true) (β β' : Bnd V) (f ywf : Bool)
    (h : (β', f) ∈ evalCond W D c β ywf) :
    ∀ w, bound β' w = true → (bound β w = true ∨ w ∈ c.vars) := by
  obtain ⟨hok, hb, _⟩ := Cond.okF_of_noFlat hf
  exact hb ▸ ((cond_spec W D c hok).1 β β' f ywf h).1.2

theorem cond_bok (c : Cond V) (hf : c.noFlat = true) (β β' : Bnd V) (f ywf : Bool) (hb : BOk D β)
    (h : (β', f) ∈ evalCond W D c β ywf) : BOk D β' :=
  have ⟨hok, _, hsh⟩ := Cond.okF_of_noFlat hf
  (adm_iff_bok W D β').1 (cond_adm W D _ c hok hsh β β' f ywf ((adm_iff_bok W D β).2 hb) h)

theorem true_output_total : ∀ (c : Cond V), c.noFlat = true → Cond.uniformOr c →
    ∀ (β β' : Bnd V) (ywf : Bool), (β', false) ∈ evalCond W D c β ywf →
    ∀ v ∈ c.vars, bound β' v = true := by
  intro c hf hu β β' ywf h
  obtain ⟨hok, hb, hsh⟩ := Cond.okF_of_noFlat hf
  exact hb ▸ (cond_covers W D _ c hok hsh β β' false ywf (fun _ _ ht => nomatch ht) h).2
    (uniformB_of_uniformOr c hf hu) rfl

/-- A true output of a condition with uniform disjunctions names a solution: read as an assignment (`asgOf`) it
    binds every variable of the condition, inside its domain, extends the incoming binding and satisfies the
    condition. -/
theorem true_output_asg [Inhabited V] (c : Cond V) (hf : c.noFlat = true) (hu : Cond.uniformOr c) (β β' : Bnd V)
    (ywf : Bool) (hb : BOk D β) (h : (β', false) ∈ evalCond W D c β ywf) :
    (∀ v ∈ c.vars, bound β' v = true) ∧ (∀ v ∈ c.vars, asgOf β' v ∈ D v) ∧ Ext β (asgOf β') ∧
      denote W (asgOf β') c = true := by
  have htot := true_output_total W D c hf hu β β' ywf h
  have hadm : ∀ v ∈ c.vars, asgOf β' v ∈ D v := fun v hv => by
    obtain ⟨a, ha⟩ := bound_iff.1 (htot v hv)
    rw [asgOf, ha]
    exact cond_bok W D c hf β β' false ywf hb h v a ha
  have hs := cond_sound W D c hf β β' false ywf h _ hadm (ext_asgOf β')
  exact ⟨htot, hadm, hs.1, hs.2⟩

/-- `htot`: an unselected, unbound variable over an empty domain is the excluded point of C02-F1. -/
theorem args_row_sound [Inhabited V] (sel : List (Term V)) (hfs : Terms.noFlat sel = true)
    (VS : List VarId) (β : Bnd V) (hb : BOk D β)
    (htot : ∀ v ∈ VS, v ∈ Terms.vars sel ∨ bound β v = true ∨ D v ≠ [])
    (q : Bnd V × List V) (hq : q ∈ evalArgs W D sel β) :
    ∃ α, (∀ v ∈ VS, α v ∈ D v) ∧ Ext β α ∧ q.2 = termsVal W α sel := by
  let α : Asg V := fun v => (q.1.lookup v).getD ((D v).headD default)
  have hs := args_sound W D sel hfs β q.1 q.2 hq α (fun v a h => by simp only [α, h, Option.getD_some])
  refine ⟨α, fun v hv => ?_, hs.1, hs.2.symm⟩
  cases hl : q.1.lookup v with
  | some a => simp only [α, hl, Option.getD_some]; exact args_bok W D sel hfs β q.1 q.2 hb hq v a hl
  | none =>
    -- unbound at the end: neither selected nor bound before, so its domain has a head
    have hnb : ¬ bound q.1 v = true := by simp [bound, hl]
    have hsupp := args_supp W D sel hfs β q.1 q.2 hq v
    rcases htot v hv with h | h | h
    · exact absurd (hsupp.2 (Or.inr h)) hnb
    · exact absurd (hsupp.2 (Or.inl h)) hnb
    · simp only [α, hl, Option.getD_none]
      cases hDv : D v with
      | nil => exact absurd hDv h
      | cons o os => exact List.mem_cons_self

theorem args_row_complete (sel : List (Term V)) (hfs : Terms.noFlat sel = true) (β : Bnd V) (α : Asg V)
    (hext : Ext β α) (hadm : ∀ v ∈ Terms.vars sel, α v ∈ D v) :
    termsVal W α sel ∈ (evalArgs W D sel β).map (·.2) := by
  obtain ⟨q, hq, he⟩ := args_complete W D sel hfs β α hext hadm
  exact List.mem_map.2 ⟨q, hq, (args_sound W D sel hfs β q.1 q.2 hq α he).2.symm⟩

end Eql
