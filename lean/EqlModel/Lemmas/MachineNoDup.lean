/-
  L2: with the result cache disabled and every bound variable among the required ones, the
  stateful evaluator never drops an output as a duplicate: it yields exactly the outputs of the L1
  evaluation, in order, provided every duplicate constraint stored in the sub-tree it works on clashes
  with its input binding (true of the fresh state, and preserved from one sibling input to the next
  because the outputs of the L1 evaluation pairwise clash).
-/
import EqlModel.Lemmas.MachineStep
import EqlModel.Lemmas.MachineConj

namespace Eql.Machine
open Eql
variable {V : Type} [BEq V]
variable (W : World V) (D : VarId → List V) (P : Params V)

theorem clash_symm {key : V → Nat} {β β' : Bnd V} (h : Clash key β β') : Clash key β' β := by
  obtain ⟨v, a, b, h1, h2, h3⟩ := h
  exact ⟨v, b, a, h2, h1, fun e => h3 e.symm⟩

def ReqSup (AV : List VarId) (req : ReqFn) : Prop := ∀ wt v, v ∈ AV → v ∈ req wt

def BIn (AV : List VarId) (β : Bnd V) : Prop := ∀ v a, β.lookup v = some a → v ∈ AV

theorem isDup_off (AV : List VarId) (hinj : Function.Injective P.rank) {req : ReqFn} (hreq : ReqSup AV req)
    {b : Bnd V} (hb : BIn AV b) (isFalse : Bool) {n : NodeSt} (h : NodeOk P n b) :
    (isDup P req isFalse b n).1 = false ∧
    ∀ β₂, NodeOk P n β₂ → Clash P.toKey b β₂ → NodeOk P (isDup P req isFalse b n).2 β₂ := by
  obtain ⟨d1, _, _, d4⟩ := isDup_fresh P hinj req isFalse b n h
  exact ⟨d1, fun β₂ h2 hc => d4 β₂ h2 fun _ => clashC_of_clash P _ b β₂ (fun v a h => hreq _ v (hb v a h)) hc⟩

theorem fold_good (R : Path → Prop) (g : Bnd V × Bool → List (Bnd V × Bool))
    (step : List (Bnd V × Bool) × St → Bnd V × Bool → List (Bnd V × Bool) × St) :
    ∀ (xs : List (Bnd V × Bool)), xs.Pairwise (fun a b => Clash P.toKey a.1 b.1) →
    (∀ acc x, x ∈ xs → InvOn P acc.2 R x.1 →
        (step acc x).1 = acc.1 ++ g x ∧ FrameOn acc.2 (step acc x).2 R ∧
        ∀ β₂, InvOn P acc.2 R β₂ → Clash P.toKey x.1 β₂ → InvOn P (step acc x).2 R β₂) →
    ∀ acc, (∀ x ∈ xs, InvOn P acc.2 R x.1) →
      (xs.foldl step acc).1 = acc.1 ++ xs.flatMap g ∧ FrameOn acc.2 (xs.foldl step acc).2 R ∧
      ∀ β₂, InvOn P acc.2 R β₂ → (∀ x ∈ xs, Clash P.toKey x.1 β₂) → InvOn P (xs.foldl step acc).2 R β₂ := by
  intro xs hp hstep acc hacc
  obtain ⟨f1, _, f2⟩ := fold_upd id (fun _ => True) R g step xs hp
    (fun acc x hx _ hi => ⟨(hstep acc x hx hi).1, trivial, (hstep acc x hx hi).2⟩) acc trivial hacc
  rw [List.map_id] at f1 f2
  exact ⟨f1, f2⟩

/-- An operand (it has run: a confined update of `R₁`), then the loop over its outputs (each step a confined update
    of `R₂`, which the operand has left alone). -/
theorem loop_ok {R₁ R₂ R : Path → Prop} {β : Bnd V} {st : St} {lr : List (Bnd V × Bool) × St}
    {xs : List (Bnd V × Bool)} (g : Bnd V × Bool → List (Bnd V × Bool))
    (step : List (Bnd V × Bool) × St → Bnd V × Bool → List (Bnd V × Bool) × St) (out : List (Bnd V × Bool))
    (h₁ : ∀ π', R₁ π' → R π') (h₂ : ∀ π', R₂ π' → R π') (hd : ∀ π', R₂ π' → ¬ R₁ π')
    (hst : InvOn P st R₂ β) (h1 : lr.1 = xs) (hl : Upd P R₁ (Clash P.toKey β) st lr.2)
    (hp : xs.Pairwise (fun a b => Clash P.toKey a.1 b.1)) (hsub : ∀ x ∈ xs, Sub β x.1)
    (hstep : ∀ acc x, x ∈ xs → InvOn P acc.2 R₂ x.1 →
      (step acc x).1 = acc.1 ++ g x ∧ Upd P R₂ (Clash P.toKey x.1) acc.2 (step acc x).2) :
    (lr.1.foldl step (out, lr.2)).1 = out ++ xs.flatMap g ∧
      Upd P R (Clash P.toKey β) st (lr.1.foldl step (out, lr.2)).2 := by
  subst h1
  obtain ⟨f1, f2⟩ := fold_good P R₂ g step lr.1 hp hstep (out, lr.2)
    fun x hx => invOn_mono P (invOn_frame P hst hl.1 hd) (hsub x hx)
  exact ⟨f1, upd_trans (upd_grow hl h₁)
    (upd_weaken (upd_grow f2 h₂) fun β₂ hc x hx => clash_mono P.toKey hc (hsub x hx) (sub_refl β₂))⟩

/-- What an evaluation step has to deliver: the L1 outputs, a change confined to the sub-tree of `ρ`,
    and a sub-tree that stays fine for every binding that clashes with the input. -/
def EvalOk (ev : St → List (Bnd V × Bool) × St) (outs : List (Bnd V × Bool)) (ρ : Path) (β : Bnd V) : Prop :=
  ∀ st, InvOn P st (InSub ρ) β →
    (ev st).1 = outs ∧ FrameOn st (ev st).2 (InSub ρ) ∧
    ∀ β₂, InvOn P st (InSub ρ) β₂ → Clash P.toKey β β₂ → InvOn P (ev st).2 (InSub ρ) β₂

/-- The part of the state an AND / ElseIf node's loop works on: the node itself and the sub-tree of
    its right operand. -/
def RegR (π : Path) : Path → Prop := fun π' => π' = π ∨ InSub (1 :: π) π'

theorem regR_sub (π : Path) : ∀ π', RegR π π' → InSub π π' := by
  intro π' h
  rcases h with h | h
  · subst h; exact inSub_refl _
  · exact inSub_child h

theorem andStep_ok (AV : List VarId) (hinj : Function.Injective P.rank) (π : Path) (req : ReqFn) (ywf : Bool)
    (rvars : List VarId) (evalR : Bnd V → St → List (Bnd V × Bool) × St) (gR : Bnd V → List (Bnd V × Bool))
    (hreq : ReqSup AV req) (hR : ∀ b, BIn AV b → EvalOk P (evalR b) (gR b) (1 :: π) b)
    (acc : List (Bnd V × Bool) × St) (lv : Bnd V × Bool) (hb : BIn AV lv.1) (hinv : InvOn P acc.2 (RegR π) lv.1) :
    (andStep P false π req ywf rvars evalR acc lv).1 =
        acc.1 ++ (if (ywf && lv.2) = true then [(lv.1, true)] else gR lv.1) ∧
    FrameOn acc.2 (andStep P false π req ywf rvars evalR acc lv).2 (RegR π) ∧
    ∀ β₂, InvOn P acc.2 (RegR π) β₂ → Clash P.toKey lv.1 β₂ →
      InvOn P (andStep P false π req ywf rvars evalR acc lv).2 (RegR π) β₂ := by
  obtain ⟨b, fl⟩ := lv
  have hπ : RegR π π := Or.inl rfl
  by_cases hy : (ywf && fl) = true
  · -- a false left value is forwarded: never a duplicate (`keyR` leaves the duplicate tracking sets alone)
    obtain ⟨d1, d2⟩ := isDup_off P AV hinj hreq hb true (n := keyR P rvars (getNode acc.2 π)) (hinv π hπ)
    rw [andStep_fwd hy d1, if_pos hy]
    exact ⟨rfl, upd_setNode hπ d2⟩
  · -- the right operand runs under the state in which the node carries its keyed cache
    obtain ⟨r1, r2⟩ := hR b hb (setNode acc.2 π (keyR P rvars (getNode acc.2 π)))
      (invOn_setNode_seen (invOn_sub P hinv fun _ h => Or.inr h))
    rw [andStep_via (Bool.eq_false_iff.2 hy), viaR_off, if_neg hy]
    simp only [andMiss, Bool.false_eq_true, if_false]
    exact ⟨by rw [r1], upd_trans (upd_trans (upd_setNode_seen hπ) (upd_grow r2 fun _ h => Or.inr h))
      (upd_setNode_seen hπ)⟩

def RegN (π : Path) : Path → Prop := fun π' => π' = π

theorem orInner_ok (AV : List VarId) (hinj : Function.Injective P.rank) (π : Path) (req : ReqFn) (ywf : Bool)
    (rvars : List VarId) (hreq : ReqSup AV req)
    (a2 : List (Bnd V × Bool) × St) (rv : Bnd V × Bool) (hb : BIn AV rv.1)
    (hsound : (rv.2 && !ywf) = false) (hinv : InvOn P a2.2 (RegN π) rv.1) :
    (orInner P false π req ywf rvars a2 rv).1 = a2.1 ++ [rv] ∧
    FrameOn a2.2 (orInner P false π req ywf rvars a2 rv).2 (RegN π) ∧
    ∀ β₂, InvOn P a2.2 (RegN π) β₂ → Clash P.toKey rv.1 β₂ →
      InvOn P (orInner P false π req ywf rvars a2 rv).2 (RegN π) β₂ := by
  obtain ⟨b, fl⟩ := rv
  obtain ⟨out, s⟩ := a2
  have hπ : RegN π π := rfl
  cases fl with
  | true =>
    -- a false right output (only when yield_when_false): kept as it is
    rw [orInner_false (by simpa using hsound)]
    exact ⟨rfl, upd_setNode_seen hπ⟩
  | false =>
    -- a true right output: passes the duplicate check
    obtain ⟨d1, d2⟩ := isDup_off P AV hinj hreq hb false (hinv π hπ)
    rw [orInner_true d1]
    exact ⟨rfl, upd_setNode hπ d2⟩

theorem orStep_ok (AV : List VarId) (hinj : Function.Injective P.rank) (π : Path) (req : ReqFn) (ywf : Bool)
    (rvars : List VarId) (evalR : Bnd V → St → List (Bnd V × Bool) × St) (gR : Bnd V → List (Bnd V × Bool))
    (hreq : ReqSup AV req) (hR : ∀ b, BIn AV b → EvalOk P (evalR b) (gR b) (1 :: π) b)
    (hgR : ∀ b, BIn AV b → (∀ y ∈ gR b, Sub b y.1 ∧ BIn AV y.1 ∧ (y.2 && !ywf) = false) ∧
        (gR b).Pairwise (fun a c => Clash P.toKey a.1 c.1))
    (acc : List (Bnd V × Bool) × St) (lv : Bnd V × Bool) (hb : BIn AV lv.1) (hinv : InvOn P acc.2 (RegR π) lv.1) :
    (orStep P false π req ywf rvars evalR acc lv).1 =
        acc.1 ++ (if lv.2 = true then gR lv.1 else [(lv.1, false)]) ∧
    FrameOn acc.2 (orStep P false π req ywf rvars evalR acc lv).2 (RegR π) ∧
    ∀ β₂, InvOn P acc.2 (RegR π) β₂ → Clash P.toKey lv.1 β₂ →
      InvOn P (orStep P false π req ywf rvars evalR acc lv).2 (RegR π) β₂ := by
  obtain ⟨b, fl⟩ := lv
  have hπ : RegR π π := Or.inl rfl
  cases fl with
  | false =>
    -- the left operand was true: its output is the output
    rw [orStep_fwd]
    exact ⟨rfl, upd_refl⟩
  | true =>
    -- the left operand was false: the right operand decides; each of its outputs goes through `orInner`
    have hst1 := invOn_setNode_seen (n := keyR P rvars (getNode acc.2 π)) hinv
    obtain ⟨r1, r2⟩ := hR b hb _ (invOn_sub P hst1 fun _ h => Or.inr h)
    obtain ⟨gy, gp⟩ := hgR b hb
    obtain ⟨f1, f2⟩ := loop_ok P (R₁ := InSub (1 :: π)) (R₂ := RegN π) (R := RegR π) (fun rv => [rv])
      (orInner P false π req ywf rvars) acc.1 (fun _ h => Or.inr h) (fun _ h => Or.inl h)
      (fun π' e h1 => not_inSub_child_self 1 π (e ▸ h1)) (invOn_sub P hst1 fun _ h => Or.inl h) r1 r2 gp
      (fun y hy => (gy y hy).1)
      fun a2 y hy hi => orInner_ok P AV hinj π req ywf rvars hreq a2 y (gy y hy).2.1 (gy y hy).2.2 hi
    rw [orStep_via, viaR_off, if_pos rfl]
    exact ⟨by rw [f1, List.flatMap_singleton'], upd_trans (upd_setNode_seen hπ) f2⟩

theorem regR_not_left (π π' : Path) (h : RegR π π') : ¬ InSub (0 :: π) π' := by
  rcases h with h | h
  · subst h; exact not_inSub_child_self 0 π'
  · intro h0; exact inSub_children_disjoint (by decide : (0 : Nat) ≠ 1) h0 h

theorem out_ok (AV : List VarId) (c : Cond V) (hf : c.noFlat = true) (hv : ∀ v ∈ c.vars, v ∈ AV) (b : Bnd V)
    (y : Bnd V × Bool) (ywf : Bool) (hb : BIn AV b) (hy : y ∈ evalCond W D c b ywf) :
    Sub b y.1 ∧ BIn AV y.1 ∧ (y.2 && !ywf) = false := by
  refine ⟨cond_sub W D c hf b y.1 y.2 ywf hy, fun v a hva => ?_, ?_⟩
  · rcases cond_supp W D c hf b y.1 y.2 ywf hy v (bound_iff.2 ⟨a, hva⟩) with h | h
    · obtain ⟨a', ha'⟩ := bound_iff.1 h
      exact hb v a' ha'
    · exact hv v h
  · cases ywf
    · rw [evalCond_flag W D c hy]
      rfl
    · exact Bool.and_false _

theorem reqSup_leftOfAnd {AV : List VarId} {req : ReqFn} (rvars : List VarId) (h : ReqSup AV req) :
    ReqSup AV (reqLeftOfAnd rvars req) := by
  intro wt v hv
  unfold reqLeftOfAnd
  split
  · exact List.mem_append_left _ (List.mem_append_right _ (h _ v hv))
  · exact List.mem_append_right _ (h wt v hv)

theorem reqSup_leftOfOr {AV : List VarId} {req : ReqFn} (rvars : List VarId) (h : ReqSup AV req) :
    ReqSup AV (reqLeftOfOr rvars req) := by
  intro wt v hv
  unfold reqLeftOfOr
  split
  · exact h _ v hv
  · exact List.mem_append_right _ (h _ v hv)

theorem evalM_off_ok (AV : List VarId) (hinj : Function.Injective P.rank) (hD : KeysNodup P.toKey D) :
    ∀ (c : Cond V), c.noFlat = true → (∀ v ∈ c.vars, v ∈ AV) →
    ∀ (π : Path) (req : ReqFn) (β : Bnd V) (ywf : Bool), ReqSup AV req → BIn AV β →
      EvalOk P (fun st => evalM W D P false c π req β ywf st) (evalCond W D c β ywf) π β := by
  intro c
  induction c with
  | cmp op l r =>
    intro _ _ π req β ywf _ _ st hst
    exact ⟨rfl, upd_setNode_seen (inSub_refl π)⟩
  | truth inv t | pred inv n args =>
    intro _ _ π req β ywf _ _ st hst
    exact ⟨rfl, upd_refl⟩
  | and l r ihl ihr =>
    intro hf hv π req β ywf hreq hb st hst
    simp only [Cond.noFlat, Bool.and_eq_true] at hf
    have hvl : ∀ v ∈ l.vars, v ∈ AV := fun v h => hv v (List.mem_append_left _ h)
    have hvr : ∀ v ∈ r.vars, v ∈ AV := fun v h => hv v (List.mem_append_right _ h)
    obtain ⟨l1, l2⟩ := ihl hf.1 hvl (0 :: π) _ β ywf (reqSup_leftOfAnd r.vars hreq) hb st
      (invOn_sub P hst fun _ h => inSub_child h)
    have hxs := fun x hx => out_ok W D AV l hf.1 hvl β x ywf hb hx
    exact loop_ok P _ _ [] (fun _ h => inSub_child h) (regR_sub π) (regR_not_left π) (invOn_sub P hst (regR_sub π))
      l1 l2 (cond_pairwise W (separates_clash hD) l hf.1 β ywf) (fun x hx => (hxs x hx).1)
      fun acc x hx hinv => andStep_ok P AV hinj π req ywf r.vars _ _ hreq
        (fun b hbb => ihr hf.2 hvr (1 :: π) _ b ywf hreq hbb) acc x (hxs x hx).2.1 hinv
  | elseIf l r ihl ihr =>
    intro hf hv π req β ywf hreq hb st hst
    simp only [Cond.noFlat, Bool.and_eq_true] at hf
    have hvl : ∀ v ∈ l.vars, v ∈ AV := fun v h => hv v (List.mem_append_left _ h)
    have hvr : ∀ v ∈ r.vars, v ∈ AV := fun v h => hv v (List.mem_append_right _ h)
    obtain ⟨l1, l2⟩ := ihl hf.1 hvl (0 :: π) _ β true (reqSup_leftOfOr r.vars hreq) hb st
      (invOn_sub P hst fun _ h => inSub_child h)
    have hR : ∀ b, BIn AV b → EvalOk P (fun s => evalM W D P false r (1 :: π) (reqRightOfOr req) b ywf s)
        (evalCond W D r b ywf) (1 :: π) b := fun b hbb => ihr hf.2 hvr (1 :: π) _ b ywf hreq hbb
    simp only [evalM, evalCond, Bool.false_eq_true, if_false]
    by_cases he : (evalCond W D l β true).isEmpty = true
    · -- the left operand produced nothing: the right operand is evaluated against the sources
      rw [if_pos he, if_pos (l1 ▸ he)]
      obtain ⟨r1, r2⟩ := hR β hb _ (invOn_frame P (invOn_sub P hst fun _ h => inSub_child h) l2.1
        fun π' h hc => inSub_children_disjoint (by decide) hc h)
      exact ⟨r1, upd_trans (upd_trans (upd_grow l2 fun _ h => inSub_child h) (upd_grow r2 fun _ h => inSub_child h))
        (upd_setNode_seen (inSub_refl π))⟩
    · have hxs := fun x hx => out_ok W D AV l hf.1 hvl β x true hb hx
      rw [if_neg he, if_neg (l1 ▸ he)]
      exact loop_ok P _ _ [] (fun _ h => inSub_child h) (regR_sub π) (regR_not_left π) (invOn_sub P hst (regR_sub π))
        l1 l2 (cond_pairwise W (separates_clash hD) l hf.1 β true) (fun x hx => (hxs x hx).1)
        fun acc x hx hinv => orStep_ok P AV hinj π req ywf r.vars _ _ hreq hR
          (fun b hbb => ⟨fun y hy => out_ok W D AV r hf.2 hvr b y ywf hbb hy,
            cond_pairwise W (separates_clash hD) r hf.2 b ywf⟩) acc x (hxs x hx).2.1 hinv
  | sub sel c ih =>
    intro hf hv π req β ywf hreq hb st hst
    simp only [Cond.noFlat, Bool.and_eq_true] at hf
    obtain ⟨h1, h2⟩ := ih hf.1 (fun v h => hv v (List.mem_append_left _ h)) (0 :: π) _ β ywf
      (fun wt v h => List.mem_append_left _ (hreq wt v h)) hb st (invOn_sub P hst fun _ h => inSub_child h)
    exact ⟨congrArg (List.flatMap _) h1, upd_grow h2 fun _ h => inSub_child h⟩

/-- Every duplicate-tracking set of the state is empty (the fresh state; the state `_reset_cache_`
    leaves behind after an evaluation). -/
def DedupClean (st : St) : Prop := ∀ π, (getNode st π).seenT = {} ∧ (getNode st π).seenF = {}

theorem dedupClean_nil : DedupClean ([] : St) := fun _ => ⟨rfl, rfl⟩

theorem lookup_resetDedup (st : St) (π : Path) :
    List.lookup π (resetDedup st) = (List.lookup π st).map fun n => { n with seenT := {}, seenF := {} } := by
  induction st with
  | nil => rfl
  | cons p rest ih =>
    obtain ⟨k, n⟩ := p
    rw [resetDedup, List.map_cons, List.lookup_cons, List.lookup_cons]
    cases π == k
    · exact ih
    · rfl

theorem getNode_resetDedup (st : St) (π : Path) :
    getNode (resetDedup st) π = { getNode st π with seenT := {}, seenF := {} } := by
  simp only [getNode, lookup_resetDedup]
  cases List.lookup π st <;> rfl

theorem dedupClean_reset (st : St) : DedupClean (resetDedup st) :=
  fun π => by rw [getNode_resetDedup]; exact ⟨rfl, rfl⟩

theorem invOn_of_clean {st : St} (h : DedupClean st) (R : Path → Prop) (β : Bnd V) : InvOn P st R β :=
  fun π _ => nodeOk_congr P (h π).1 (h π).2 (nodeOk_default P β)

/-- **L2 = L1 when every variable of the condition is selected, caching disabled** (flatten-free conditions; the
    objects of all domains with distinct identities and ranks, `hD`, `hinj`).  One evaluation of
    `an(set_of(sel, c))` by the stateful machine - duplicate tracking active - from any state whose
    duplicate-tracking sets are empty yields exactly the rows of the L1 evaluation, in order: no output
    is ever taken for a duplicate; and it leaves such a state behind. -/
theorem rowsM_off_all_selected (hinj : Function.Injective P.rank) (hD : KeysNodup P.toKey D)
    (q : Query V) (c : Cond V) (hq : q.cond = some c) (hf : c.noFlat = true)
    (hall : ∀ v ∈ c.vars, v ∈ q.sel.flatMap Term.binds) (st : St) (hst : DedupClean st) :
    (rowsM W D P false q st).1 = rows W D q ∧ DedupClean (rowsM W D P false q st).2 := by
  have hreq : ReqSup c.vars (fun _ => q.sel.flatMap Term.binds) := fun _ v hv => hall v hv
  have hb : BIn c.vars ([] : Bnd V) := fun _ _ h => nomatch h
  obtain ⟨h1, _⟩ := evalM_off_ok W D P c.vars hinj hD c hf (fun v hv => hv) [] _ [] false hreq hb st
    (invOn_of_clean P hst _ _)
  exact ⟨rowsM_of_outs W D P false q c hq st h1, by rw [rowsM, hq]; exact dedupClean_reset _⟩

/-- The state after `n` consecutive evaluations of the query object (result cache disabled). -/
def afterEvals (q : Query V) : Nat → St → St
  | 0, s => s
  | n + 1, s => afterEvals q n (rowsM W D P false q s).2

theorem rowsM_off_all_selected_iter (hinj : Function.Injective P.rank) (hD : KeysNodup P.toKey D)
    (q : Query V) (c : Cond V) (hq : q.cond = some c) (hf : c.noFlat = true)
    (hall : ∀ v ∈ c.vars, v ∈ q.sel.flatMap Term.binds) :
    ∀ (n : Nat) (st : St), DedupClean st →
      (rowsM W D P false q (afterEvals W D P q n st)).1 = rows W D q := by
  intro n
  induction n with
  | zero => intro st hst; exact (rowsM_off_all_selected W D P hinj hD q c hq hf hall st hst).1
  | succ n ih =>
    intro st hst
    simp only [afterEvals]
    exact ih _ (rowsM_off_all_selected W D P hinj hD q c hq hf hall st hst).2

end Eql.Machine
