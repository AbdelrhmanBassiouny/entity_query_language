/-
  L2 with the result cache ENABLED, single-variable queries, ARBITRARY and/or trees all of whose nodes are
  consulted with `x` bound (ONE object `x ↦ o` at a time), under either value of `yield_when_false`
  (the left operand of an ElseIf is asked for its false outputs too), so its caches store false
  outputs as well and the duplicate tracking sets are exercised.  What the caches do is in `MachineOne.lean`
  (`viaR_one`, `cmp_one`: no assumption on duplicate tracking); here the duplicate tracking is added: the duplicate
  check on `x ↦ o` at a node that is fine for `x ↦ o` answers "new" (`isDup_single`, `serve_ok`).
-/
import EqlModel.Lemmas.MachineOne
import EqlModel.Lemmas.MachineStep

namespace Eql.Machine
open Eql
variable {V : Type}
variable (P : Params V) (x : VarId)
variable (W : World V) (D : VarId → List V)

/-- Every shape of `Cond`; kept as a predicate so that statements name their fragment. -/
def Cond.tree : Cond V → Bool
  | .cmp _ _ _ => true
  | .truth _ _ => true
  | .pred _ _ _ => true
  | .and l r => Cond.tree l && Cond.tree r
  | .elseIf l r => Cond.tree l && Cond.tree r
  | .sub _ c => Cond.tree c

theorem Cond.tree_all : ∀ (c : Cond V), Cond.tree c = true := by
  intro c
  induction c with
  | cmp _ _ _ | truth _ _ | pred _ _ _ => rfl
  | and l r ihl ihr | elseIf l r ihl ihr => exact Bool.and_eq_true_iff.2 ⟨ihl, ihr⟩
  | sub _ c ih => exact ih

/-- The caches of the tree: the flag under which a node is evaluated is fixed by its position (the left
    operand of an ElseIf is always asked for its false outputs). -/
def SInv : Cond V → Path → Bool → St → Prop
  | .cmp op l r, π, y, st => BSpecY P x D (getNode st π).cache y (Hc W (.cmp op l r))
  | .and l r, π, y, st =>
      BSpecY P x D (getNode st π).rcache y (Hc W r) ∧ SInv l (0 :: π) y st ∧ SInv r (1 :: π) y st
  | .elseIf l r, π, y, st =>
      BSpecY P x D (getNode st π).rcache y (Hc W r) ∧ SInv l (0 :: π) true st ∧ SInv r (1 :: π) y st
  | .sub _ c, π, y, st => SInv c (0 :: π) y st
  | _, _, _, _ => True

theorem sinv_local : ∀ (c : Cond V) (π : Path) (y : Bool), CacheLocal π (SInv P x W D c π y) := by
  intro c
  induction c with
  | cmp op l r => intro π y; exact cacheLocal_cache π fun c => BSpecY P x D c y (Hc W (.cmp op l r))
  | truth _ _ | pred _ _ _ => intro π _; exact cacheLocal_true π
  | and l r ihl ihr | elseIf l r ihl ihr =>
    intro π y
    exact cacheLocal_and (cacheLocal_rcache π fun c => BSpecY P x D c y (Hc W r))
      (cacheLocal_and (cacheLocal_child (ihl _ _)) (cacheLocal_child (ihr _ _)))
  | sub _ c ih => intro π y; exact cacheLocal_child (ih _ _)

theorem sinv_frame (c : Cond V) (π : Path) (y : Bool) (st st' : St)
    (h : ∀ π', InSub π π' → getNode st' π' = getNode st π') (hc : SInv P x W D c π y st) : SInv P x W D c π y st' :=
  (sinv_local P x W D c π y).frame h hc

/-- What one evaluation step for the object `o` has to deliver on the sub-tree of `ρ`: the outputs, the
    cache invariant kept, a change confined to the sub-tree, and a sub-tree that stays fine for every
    binding that clashes with `x ↦ o`. -/
def StepOk (inv : St → Prop) (ev : St → List (Bnd V × Bool) × St) (outs : List (Bnd V × Bool)) (ρ : Path)
    (o : V) : Prop :=
  ∀ st, inv st → InvOn P st (InSub ρ) [(x, o)] →
    (ev st).1 = outs ∧ inv (ev st).2 ∧ FrameOn st (ev st).2 (InSub ρ) ∧
    ∀ β₂ : Bnd V, InvOn P st (InSub ρ) β₂ → Clash P.toKey [(x, o)] β₂ → InvOn P (ev st).2 (InSub ρ) β₂

/-- What the loop of the AND / ElseIf node at `π` (right operand `r`, flag `y`) maintains from `s` to `s'` while it
    works on `x ↦ o`: the specification of the node's cache, the caches of the right operand, and a confined update
    of the node and the right operand's sub-tree. -/
def NodeStep (π : Path) (y : Bool) (r : Cond V) (o : V) (s s' : St) : Prop :=
  BSpecY P x D (getNode s' π).rcache y (Hc W r) ∧ SInv P x W D r (1 :: π) y s' ∧
    Upd P (RegR π) (Clash P.toKey [(x, o)]) s s'

theorem sinv_setNode {k : Nat} {r : Cond V} {π : Path} {y : Bool} {s : St} (n : NodeSt)
    (h : SInv P x W D r (k :: π) y s) : SInv P x W D r (k :: π) y (setNode s π n) :=
  sinv_frame P x W D r _ y _ _
    (fun _ hp => getNode_setNode_ne _ _ _ _ (fun e => not_inSub_child_self k π (e ▸ hp))) h

theorem nodeStep_set {π : Path} {y : Bool} {r : Cond V} {o : V} {s s' : St} {n' : NodeSt}
    (hU : Upd P (RegR π) (Clash P.toKey [(x, o)]) s s') (hS : SInv P x W D r (1 :: π) y s')
    (hc : NBy P x D n'.rcache y (Hc W r))
    (hn : ∀ β₂ : Bnd V, NodeOk P (getNode s' π) β₂ → Clash P.toKey [(x, o)] β₂ → NodeOk P n' β₂) :
    NodeStep P x W D π y r o s (setNode s' π n') :=
  ⟨by rw [getNode_setNode_self]; exact Or.inr hc, sinv_setNode P x W D n' hS,
    upd_trans hU (upd_setNode (Or.inl rfl) hn)⟩

theorem singleOut_hc (c : Cond V) (y : Bool) (o : V) : singleOut W c x y o = closedOut [(x, o)] (Hc W c o) y := rfl

/-- The L1 output of a conjunction, as AND's loop produces it from the left operand's output (`andStep_y`). -/
theorem singleOut_andStep (l r : Cond V) (y : Bool) (o : V) :
    singleOut W (.and l r) x y o =
      if (Hc W l o || y) = true then
        (if (y && !Hc W l o) = true then [(([(x, o)] : Bnd V), true)] else singleOut W r x y o)
      else [] :=
  (closedOut_and _ _ _ _).symm

theorem singleOut_and (l r : Cond V) (y : Bool) (o : V) :
    singleOut W (.and l r) x y o =
      if Hc W l o = true then singleOut W r x y o
      else (if y = true then [(([(x, o)] : Bnd V), true)] else []) := by
  rw [singleOut_andStep]
  cases Hc W l o <;> cases y <;> rfl

/-- The L1 output of a disjunction, as ElseIf's loop produces it from the left operand's output (`orStep_y`). -/
theorem singleOut_orStep (l r : Cond V) (y : Bool) (o : V) :
    singleOut W (.elseIf l r) x y o =
      if (!Hc W l o) = true then singleOut W r x y o else [(([(x, o)] : Bnd V), false)] :=
  (closedOut_or _ _ _ _).symm

theorem singleOut_or (l r : Cond V) (y : Bool) (o : V) :
    singleOut W (.elseIf l r) x y o =
      if Hc W l o = true then [(([(x, o)] : Bnd V), false)] else singleOut W r x y o := by
  rw [singleOut_orStep]
  cases Hc W l o <;> rfl

theorem singleOut_sub (sel : List (Term V)) (c : Cond V) (hf : Terms.noFlat sel = true)
    (hs : ∀ v ∈ Terms.vars sel, v = x) (y : Bool) (o : V) :
    ((singleOut W c x y o).flatMap fun p => (evalArgs W D sel p.1).map fun q => (q.1, p.2)) =
      singleOut W (.sub sel c) x y o := by
  have ha : evalArgs W D sel [(x, o)] = [([(x, o)], termsVal W (constAsg o) sel)] :=
    args_closed_on W D sel hf _ _ fun v hv => by rw [hs v hv]; exact lookup_self
  rw [singleOut, closedOut_flatMap, ha]
  rfl

variable [BEq V]

theorem clashC_single (required : List VarId) (o : V) (β₂ : Bnd V)
    (hc : Clash P.toKey [(x, o)] β₂) (hne : (toAsg P required [(x, o)]).isEmpty = false) :
    ClashC P (toAsg P required [(x, o)]) β₂ := by
  have hx : ∀ {v : VarId} {a : V}, ([(x, o)] : Bnd V).lookup v = some a → v = x := by
    intro v a h
    by_cases e : v = x
    · exact e
    · rw [lookup_cons_ne _ o e] at h; cases h
  -- the key is non-empty, so a required variable is bound by `x ↦ o`: `x` is required
  simp only [toAsg, List.isEmpty_eq_false_iff_exists_mem, List.mem_filterMap] at hne
  obtain ⟨q, w, hw, hq⟩ := hne
  refine clashC_of_clash P required _ β₂ (fun v a hv => ?_) hc
  cases hl : ([(x, o)] : Bnd V).lookup w with
  | none => rw [hl] at hq; cases hq
  | some b => rw [hx hv, ← hx hl]; exact List.mem_eraseDups.1 hw

theorem isDup_single (hinj : Function.Injective P.rank) (req : ReqFn) (isFalse : Bool) (o : V) (n : NodeSt)
    (hn : NodeOk P n [(x, o)]) :
    (isDup P req isFalse [(x, o)] n).1 = false ∧
    (isDup P req isFalse [(x, o)] n).2.cache = n.cache ∧ (isDup P req isFalse [(x, o)] n).2.rcache = n.rcache ∧
    ∀ β₂ : Bnd V, NodeOk P n β₂ → Clash P.toKey [(x, o)] β₂ → NodeOk P (isDup P req isFalse [(x, o)] n).2 β₂ :=
  let ⟨d1, d2, d3, d4⟩ := isDup_fresh P hinj req isFalse [(x, o)] n hn
  ⟨d1, d2, d3, fun β₂ h hc => d4 β₂ h (clashC_single P x _ o β₂ hc)⟩

theorem serve_ok (hinj : Function.Injective P.rank) (req : ReqFn) (y h : Bool) (o : V) (hyw : y = false → h = true)
    (n : NodeSt) (hn : NodeOk P n [(x, o)]) :
    ∃ n', serve P req [(x, o)] (!h) n = (closedOut ([(x, o)] : Bnd V) h y, n') ∧
      n'.cache = n.cache ∧ n'.rcache = n.rcache ∧
      ∀ β₂ : Bnd V, NodeOk P n β₂ → Clash P.toKey [(x, o)] β₂ → NodeOk P n' β₂ := by
  cases h with
  | true => exact ⟨n, rfl, rfl, rfl, fun β₂ h _ => h⟩
  | false =>
    obtain ⟨d1, d2, d3, d4⟩ := isDup_single P x hinj req true o n hn
    cases y with
    | true =>
      refine ⟨_, ?_, d2, d3, d4⟩
      unfold serve
      rw [d1]
      rfl
    | false => cases hyw rfl

theorem nby_hit (hk : KeyOk P x D) (hinj : Function.Injective P.rank) {vars : List VarId} (hv : OnlyX x vars)
    (req : ReqFn) {c : Cache.Cache Nat Bool} (ywf : Bool) (H : V → Bool) (E : List (Nat × Bool))
    (hone : Cache.One c (P.rank x) E)
    (hE : ∀ p ∈ E, ∃ o ∈ D x, p.1 = P.toKey o ∧ p.2 = !H o ∧ (ywf = false → H o = true))
    (o : V) (ho : o ∈ D x) (f : Bool) (hl : E.lookup (P.toKey o) = some f) (n : NodeSt)
    (hn : NodeOk P n [(x, o)]) :
    ∃ n', fromCache P req vars c [(x, o)] n = (closedOut ([(x, o)] : Bnd V) (H o) ywf, n') ∧
      n'.cache = n.cache ∧ n'.rcache = n.rcache ∧
      ∀ β₂ : Bnd V, NodeOk P n β₂ → Clash P.toKey [(x, o)] β₂ → NodeOk P n' β₂ := by
  obtain ⟨hyw, hfc⟩ := nby_serve P x D hk hv req ywf H E hone hE o ho f hl n
  rw [hfc]
  exact serve_ok P x hinj req ywf (H o) o hyw n hn

theorem cmp_bound_y (hk : KeyOk P x D) (hinj : Function.Injective P.rank) (op : CmpOp) (l r : Term V)
    (hv : OnlyX x (l.vars ++ r.vars)) (hf : (Cond.cmp op l r).noFlat = true) (hs : Cond.single x (.cmp op l r))
    (ywf : Bool) (o : V) (ho : o ∈ D x) (π : Path) (req : ReqFn) (st : St)
    (hspec : BSpecY P x D (getNode st π).cache ywf (Hc W (.cmp op l r)))
    (hn : NodeOk P (getNode st π) [(x, o)]) :
    ∃ n', evalM W D P true (.cmp op l r) π req [(x, o)] ywf st =
        (singleOut W (.cmp op l r) x ywf o, setNode st π n') ∧
      NBy P x D n'.cache ywf (Hc W (.cmp op l r)) ∧ n'.rcache = (getNode st π).rcache ∧
      ∀ β₂ : Bnd V, NodeOk P (getNode st π) β₂ → Clash P.toKey [(x, o)] β₂ → NodeOk P n' β₂ := by
  obtain ⟨c', hnb, he | ⟨hyw, he⟩⟩ := cmp_one P x W D hk op l r hv hf hs ywf o ho π req st hspec
  · exact ⟨_, he, hnb, rfl, fun β₂ h2 _ => h2⟩
  · obtain ⟨n', hs', hc1, hc2, hc3⟩ := serve_ok P x hinj req ywf (Hc W (.cmp op l r) o) o hyw
      { getNode st π with cache := c' } hn
    rw [he, hs']
    exact ⟨n', rfl, hc1 ▸ hnb, hc2, hc3⟩

/-- ElseIf's inner loop stores the output of its right operand (one, or none) just as AND stores it: the `hstore` of
    `viaR_y`. -/
theorem orInner_closed (hinj : Function.Injective P.rank) (π : Path) (req : ReqFn) (y : Bool) (rvars : List VarId)
    (o : V) (d : Bool) (out : List (Bnd V × Bool)) (s : St) (hn : NodeOk P (getNode s π) [(x, o)]) :
    ∃ s', (closedOut [(x, o)] d y).foldl (orInner P true π req y rvars) (out, s) = (out ++ closedOut [(x, o)] d y, s') ∧
      (getNode s' π).rcache =
        (closedOut ([(x, o)] : Bnd V) d y).foldl (fun c p => c.insert (toAsg P rvars p.1) p.2) (getNode s π).rcache ∧
      Upd P (RegN π) (Clash P.toKey [(x, o)]) s s' := by
  cases d with
  | true =>
    obtain ⟨d1, _, d3, d4⟩ := isDup_single P x hinj req false o _ hn
    refine ⟨_, orInner_true (ywf := y) d1, ?_, upd_setNode rfl d4⟩
    rw [getNode_setNode_self, ← d3]
    rfl
  | false =>
    cases y with
    | true => exact ⟨_, orInner_false rfl, by rw [getNode_setNode_self]; rfl, upd_setNode_seen rfl⟩
    | false => exact ⟨s, congrArg (·, s) (List.append_nil out).symm, rfl, upd_refl⟩

/-- The left value `x ↦ o` handed to the right operand through the node's cache.  Served from it when `o` is stored (a
    false output passes the duplicate check); otherwise the right operand runs, on the state in which the node
    carries its keyed cache, and the operator `store`s what it yielded - AND at once, ElseIf output by output
    (`orInner`): `hstore` is all that is asked of that. -/
theorem viaR_y (hk : KeyOk P x D) (hinj : Function.Injective P.rank) (π : Path) (req : ReqFn) (y : Bool)
    (r : Cond V) (hv : OnlyX x r.vars) (evalR : Bnd V → St → List (Bnd V × Bool) × St) (o : V) (ho : o ∈ D x)
    (hR : StepOk P x (SInv P x W D r (1 :: π) y) (evalR [(x, o)]) (singleOut W r x y o) (1 :: π) o)
    (store : List (Bnd V × Bool) × St → List (Bnd V × Bool) × St) (acc : List (Bnd V × Bool) × St)
    (hspec : BSpecY P x D (getNode acc.2 π).rcache y (Hc W r)) (hinv : SInv P x W D r (1 :: π) y acc.2)
    (hdd : InvOn P acc.2 (RegR π) [(x, o)])
    (hstore : ∀ s, NodeOk P (getNode s π) [(x, o)] →
      ∃ s', store (singleOut W r x y o, s) = (acc.1 ++ singleOut W r x y o, s') ∧
        (getNode s' π).rcache =
          (singleOut W r x y o).foldl (fun c p => c.insert (toAsg P r.vars p.1) p.2) (getNode s π).rcache ∧
        Upd P (RegN π) (Clash P.toKey [(x, o)]) s s') :
    (viaR P true π req r.vars (fun s1 => store (evalR [(x, o)] s1)) acc [(x, o)]).1 = acc.1 ++ singleOut W r x y o ∧
    NodeStep P x W D π y r o acc.2 (viaR P true π req r.vars (fun s1 => store (evalR [(x, o)] s1)) acc [(x, o)]).2 := by
  -- `NodeOk` reads the tracking sets only: a node whose caches are replaced is as fine as the node
  have hn : NodeOk P (keyR P r.vars (getNode acc.2 π)) [(x, o)] := hdd π (Or.inl rfl)
  obtain ⟨hnb, ⟨hfresh, he⟩ | ⟨hyw, he⟩⟩ := viaR_one P x D hk hv π req y (Hc W r) o ho
    (fun s1 => store (evalR [(x, o)] s1)) acc hspec
  · obtain ⟨r1, r2, r3⟩ := hR _ (sinv_setNode P x W D (keyR P r.vars (getNode acc.2 π)) hinv)
      (invOn_setNode_seen (invOn_sub P hdd fun _ h => Or.inr h))
    have hnode := (r3.1 π (not_inSub_child_self 1 π)).trans (getNode_setNode_self _ _ _)
    obtain ⟨s', t1, t2, t3⟩ := hstore _ (hnode ▸ hn)
    rw [he, show evalR [(x, o)] _ = (singleOut W r x y o, (evalR [(x, o)] _).2) from Prod.ext r1 rfl, t1]
    refine ⟨rfl, ?_, sinv_frame P x W D r _ y _ _
      (fun π' hp => t3.1 π' fun e => not_inSub_child_self 1 π (e ▸ hp)) r2,
      upd_trans (upd_trans (upd_setNode_seen (Or.inl rfl)) (upd_grow r3 fun _ h => Or.inr h))
        (upd_grow t3 fun _ h => Or.inl h)⟩
    rw [t2, hnode]
    exact Or.inr (nby_store P x D hv hnb o ho hfresh)
  · obtain ⟨n', hs', _, hc2, hc3⟩ := serve_ok P x hinj req y (Hc W r o) o hyw _ hn
    rw [he, hs']
    exact ⟨rfl, nodeStep_set P x W D upd_refl hinv (hc2 ▸ hnb) hc3⟩

theorem andStep_y (hk : KeyOk P x D) (hinj : Function.Injective P.rank) (π : Path) (req : ReqFn) (y : Bool)
    (r : Cond V) (hv : OnlyX x r.vars) (evalR : Bnd V → St → List (Bnd V × Bool) × St) (o : V) (ho : o ∈ D x)
    (hR : StepOk P x (SInv P x W D r (1 :: π) y) (evalR [(x, o)]) (singleOut W r x y o) (1 :: π) o)
    (acc : List (Bnd V × Bool) × St) (fl : Bool)
    (hspec : BSpecY P x D (getNode acc.2 π).rcache y (Hc W r)) (hinv : SInv P x W D r (1 :: π) y acc.2)
    (hdd : InvOn P acc.2 (RegR π) [(x, o)]) :
    (andStep P true π req y r.vars evalR acc ([(x, o)], fl)).1 =
        acc.1 ++ (if (y && fl) = true then [(([(x, o)] : Bnd V), true)] else singleOut W r x y o) ∧
    BSpecY P x D (getNode (andStep P true π req y r.vars evalR acc ([(x, o)], fl)).2 π).rcache y (Hc W r) ∧
    SInv P x W D r (1 :: π) y (andStep P true π req y r.vars evalR acc ([(x, o)], fl)).2 ∧
    FrameOn acc.2 (andStep P true π req y r.vars evalR acc ([(x, o)], fl)).2 (RegR π) ∧
    ∀ β₂ : Bnd V, InvOn P acc.2 (RegR π) β₂ → Clash P.toKey [(x, o)] β₂ →
      InvOn P (andStep P true π req y r.vars evalR acc ([(x, o)], fl)).2 (RegR π) β₂ := by
  by_cases hy : (y && fl) = true
  · -- a false left value is forwarded: never a duplicate
    obtain ⟨d1, _, d3, d4⟩ := isDup_single P x hinj req true o (keyR P r.vars (getNode acc.2 π)) (hdd π (Or.inl rfl))
    rw [andStep_fwd hy d1, if_pos hy]
    exact ⟨rfl, nodeStep_set P x W D upd_refl hinv (d3 ▸ nby_mkCache P x D hv hspec) d4⟩
  · rw [andStep_via (eq_false_of_ne_true hy), if_neg hy]
    exact viaR_y P x W D hk hinj π req y r hv evalR o ho hR
      (fun rr => (acc.1 ++ rr.1, setNode rr.2 π { getNode rr.2 π with
        rcache := rr.1.foldl (fun c p => c.insert (toAsg P r.vars p.1) p.2) (getNode rr.2 π).rcache }))
      acc hspec hinv hdd fun s _ => ⟨_, rfl, by rw [getNode_setNode_self], upd_setNode_seen rfl⟩

theorem orStep_y (hk : KeyOk P x D) (hinj : Function.Injective P.rank) (π : Path) (req : ReqFn) (y : Bool)
    (r : Cond V) (hv : OnlyX x r.vars) (evalR : Bnd V → St → List (Bnd V × Bool) × St) (o : V) (ho : o ∈ D x)
    (hR : StepOk P x (SInv P x W D r (1 :: π) y) (evalR [(x, o)]) (singleOut W r x y o) (1 :: π) o)
    (acc : List (Bnd V × Bool) × St) (fl : Bool)
    (hspec : BSpecY P x D (getNode acc.2 π).rcache y (Hc W r)) (hinv : SInv P x W D r (1 :: π) y acc.2)
    (hdd : InvOn P acc.2 (RegR π) [(x, o)]) :
    (orStep P true π req y r.vars evalR acc ([(x, o)], fl)).1 =
        acc.1 ++ (if fl = true then singleOut W r x y o else [(([(x, o)] : Bnd V), false)]) ∧
    BSpecY P x D (getNode (orStep P true π req y r.vars evalR acc ([(x, o)], fl)).2 π).rcache y (Hc W r) ∧
    SInv P x W D r (1 :: π) y (orStep P true π req y r.vars evalR acc ([(x, o)], fl)).2 ∧
    FrameOn acc.2 (orStep P true π req y r.vars evalR acc ([(x, o)], fl)).2 (RegR π) ∧
    ∀ β₂ : Bnd V, InvOn P acc.2 (RegR π) β₂ → Clash P.toKey [(x, o)] β₂ →
      InvOn P (orStep P true π req y r.vars evalR acc ([(x, o)], fl)).2 (RegR π) β₂ := by
  cases fl with
  | false =>
    -- the left operand is true: forwarded, nothing changes
    rw [orStep_fwd]
    exact ⟨rfl, hspec, hinv, upd_refl⟩
  | true =>
    rw [orStep_via, if_pos rfl]
    exact viaR_y P x W D hk hinj π req y r hv evalR o ho hR
      (fun rr => rr.1.foldl (orInner P true π req y r.vars) (acc.1, rr.2)) acc hspec hinv hdd
      fun s hn => orInner_closed P x hinj π req y r.vars o (Hc W r o) acc.1 s hn

theorem onlyX_of_single_tree : ∀ (c : Cond V), Cond.tree c = true → Cond.single x c → OnlyX x c.vars :=
  fun c _ hs => onlyX_single x c hs

/-- Evaluate the left operand (its own sub-tree), then run the node's loop on what is left of the
    region: the two invariants live on disjoint parts of the state. -/
theorem node_compose (π : Path) (o : V) (invL invN : St → Prop)
    (hLf : ∀ s s', (∀ π', InSub (0 :: π) π' → getNode s' π' = getNode s π') → invL s → invL s')
    (hNf : ∀ s s', (∀ π', RegR π π' → getNode s' π' = getNode s π') → invN s → invN s')
    (evL : St → List (Bnd V × Bool) × St) (outsL : List (Bnd V × Bool))
    (hL : StepOk P x invL evL outsL (0 :: π) o)
    (nodeStep : St → List (Bnd V × Bool) × St) (outs : List (Bnd V × Bool))
    (hN : ∀ s, invN s → InvOn P s (RegR π) [(x, o)] →
      (nodeStep s).1 = outs ∧ invN (nodeStep s).2 ∧ FrameOn s (nodeStep s).2 (RegR π) ∧
      ∀ β₂ : Bnd V, InvOn P s (RegR π) β₂ → Clash P.toKey [(x, o)] β₂ → InvOn P (nodeStep s).2 (RegR π) β₂) :
    StepOk P x (fun s => invL s ∧ invN s) (fun s => nodeStep (evL s).2) outs π o := by
  intro st hinv hdd
  obtain ⟨hl, hn⟩ := hinv
  obtain ⟨_, l2, l3⟩ := hL st hl (invOn_sub P hdd fun _ h => inSub_child h)
  obtain ⟨n1, n2, n3⟩ := hN _ (hNf _ _ (fun π' h => l3.1 π' (regR_not_left π π' h)) hn)
    (invOn_frame P (invOn_sub P hdd (regR_sub π)) l3.1 (regR_not_left π))
  exact ⟨n1, ⟨hLf _ _ (fun π' h => n3.1 π' fun hr => regR_not_left π π' hr h) l2, n2⟩,
    upd_trans (upd_grow l3 fun _ h => inSub_child h) (upd_grow n3 (regR_sub π))⟩

/-- An AND / ElseIf node in bound position: the left operand (evaluated under `yl`) yields its output for `x ↦ o`, if
    it has one, and the loop body `step` runs on it. -/
theorem boundNode (π : Path) (y yl : Bool) (l r : Cond V) (o : V) (evL : St → List (Bnd V × Bool) × St)
    (hL : StepOk P x (SInv P x W D l (0 :: π) yl) evL (singleOut W l x yl o) (0 :: π) o)
    (step : List (Bnd V × Bool) × St → Bnd V × Bool → List (Bnd V × Bool) × St) (outF : List (Bnd V × Bool))
    (hstep : ∀ acc : List (Bnd V × Bool) × St,
      BSpecY P x D (getNode acc.2 π).rcache y (Hc W r) → SInv P x W D r (1 :: π) y acc.2 →
      InvOn P acc.2 (RegR π) [(x, o)] →
      (step acc ([(x, o)], !Hc W l o)).1 = acc.1 ++ outF ∧
      NodeStep P x W D π y r o acc.2 (step acc ([(x, o)], !Hc W l o)).2) :
    StepOk P x
      (fun s => BSpecY P x D (getNode s π).rcache y (Hc W r) ∧ SInv P x W D l (0 :: π) yl s ∧
        SInv P x W D r (1 :: π) y s)
      (fun s => (evL s).1.foldl step ([], (evL s).2)) (if (Hc W l o || yl) = true then outF else []) π o := by
  intro st ⟨hB, hLi, hRi⟩ hdd
  have hl := (hL st hLi (invOn_sub P hdd fun _ h => inSub_child h)).1
  obtain ⟨t1, t2, t3⟩ := node_compose P x π o (SInv P x W D l (0 :: π) yl)
    (fun s => BSpecY P x D (getNode s π).rcache y (Hc W r) ∧ SInv P x W D r (1 :: π) y s)
    (sinv_frame P x W D l _ _)
    (fun s s' h hn => ⟨by rw [h π (Or.inl rfl)]; exact hn.1,
      sinv_frame P x W D r _ _ s s' (fun π' hp => h π' (Or.inr hp)) hn.2⟩)
    evL _ hL (fun s => (evL st).1.foldl step ([], s)) (if (Hc W l o || yl) = true then outF else [])
    (fun s hs' hd => by
      rw [hl, singleOut_hc, closedOut_foldl]
      split
      · obtain ⟨a1, a2, a3, a4⟩ := hstep ([], s) hs'.1 hs'.2 hd
        exact ⟨a1, ⟨a2, a3⟩, a4⟩
      · exact ⟨rfl, hs', upd_refl⟩)
    st ⟨hLi, hB, hRi⟩ hdd
  exact ⟨t1, ⟨t2.2.1, t2.1, t2.2.2⟩, t3⟩

/-- **Bound position, any and/or tree.**  A single-variable tree of comparisons, truth tests,
    predicates, conjunctions, disjunctions and sub-queries in condition position evaluated with `x` bound, result
    cache ENABLED, under either flag: it yields the L1 output, whatever its caches hold (within their specification)
    and whatever its duplicate tracking sets hold (as long as every stored key clashes with `x ↦ o`). -/
theorem bound_ok_y (hk : KeyOk P x D) (hinj : Function.Injective P.rank) : ∀ (c : Cond V), Cond.tree c = true →
    Cond.single x c → c.noFlat = true → ∀ (π : Path) (y : Bool) (req : ReqFn) (o : V), o ∈ D x →
    StepOk P x (SInv P x W D c π y) (evalM W D P true c π req [(x, o)] y) (singleOut W c x y o) π o := by
  intro c
  induction c with
  | cmp op l r =>
    intro _ hs hf π y req o ho st hinv hdd
    obtain ⟨n', h1, h2, _, h4⟩ := cmp_bound_y P x W D hk hinj op l r (onlyX_of_single_cmp x hs) hf hs y o ho π req st
      hinv (hdd π (inSub_refl π))
    rw [h1]
    refine ⟨rfl, ?_, upd_setNode (inSub_refl π) h4⟩
    show BSpecY P x D (getNode (setNode st π n') π).cache y _
    rw [getNode_setNode_self]
    exact Or.inr h2
  | truth inv t | pred inv n args =>
    intro _ hs hf π y req o ho st _ _
    exact ⟨cond_at W D x _ hf hs y o, trivial, upd_refl⟩
  | and l r ihl ihr =>
    intro hc hs hf π y req o ho
    have hc := Bool.and_eq_true_iff.1 hc
    have hf := Bool.and_eq_true_iff.1 hf
    rw [singleOut_andStep]
    exact boundNode P x W D π y y l r o _ (ihl hc.1 hs.1 hf.1 (0 :: π) y (reqLeftOfAnd r.vars req) o ho)
      (andStep P true π req y r.vars fun b s' => evalM W D P true r (1 :: π) (reqRightOfAnd req) b y s') _
      fun acc => andStep_y P x W D hk hinj π req y r (onlyX_of_single_tree x r hc.2 hs.2) _ o ho
        (ihr hc.2 hs.2 hf.2 (1 :: π) y (reqRightOfAnd req) o ho) acc (!Hc W l o)
  | elseIf l r ihl ihr =>
    intro hc hs hf π y req o ho
    have hc := Bool.and_eq_true_iff.1 hc
    have hf := Bool.and_eq_true_iff.1 hf
    have hL := ihl hc.1 hs.1 hf.1 (0 :: π) true (reqLeftOfOr r.vars req) o ho
    have h := boundNode P x W D π y true l r o _ hL
      (orStep P true π req y r.vars fun b s' => evalM W D P true r (1 :: π) (reqRightOfOr req) b y s') _
      fun acc => orStep_y P x W D hk hinj π req y r (onlyX_of_single_tree x r hc.2 hs.2) _ o ho
        (ihr hc.2 hs.2 hf.2 (1 :: π) y (reqRightOfOr req) o ho) acc (!Hc W l o)
    rw [Bool.or_true, if_pos rfl, ← singleOut_orStep] at h
    -- asked for its false outputs too, the left operand yields an output: the right one is not evaluated in its place
    intro st hinv hdd
    have hne : (evalM W D P true l (0 :: π) (reqLeftOfOr r.vars req) [(x, o)] true st).1.isEmpty = false := by
      rw [(hL st hinv.2.1 (invOn_sub P hdd fun _ h => inSub_child h)).1, singleOut_hc, closedOut_true]
      rfl
    simp only [evalM, hne, Bool.false_eq_true, if_false]
    exact h st hinv hdd
  | sub sel c ih =>
    intro hc hs hf π y req o ho st hinv hdd
    have hf := Bool.and_eq_true_iff.1 hf
    obtain ⟨c1, c2, c3⟩ := ih hc hs.1 hf.1 (0 :: π) y (fun wt => req wt ++ sel.flatMap Term.binds) o ho st hinv
      (invOn_sub P hdd (fun π' h => inSub_child h))
    refine ⟨?_, c2, upd_grow c3 (fun π' h => inSub_child h)⟩
    simp only [evalM, c1]
    exact singleOut_sub x W D sel c hf.2 hs.2 y o

theorem sinv_reset (c : Cond V) (π : Path) (y : Bool) (st : St) (h : SInv P x W D c π y st) :
    SInv P x W D c π y (resetDedup st) :=
  (sinv_local P x W D c π y).reset h

theorem sinv_nil : ∀ (c : Cond V) (π : Path) (y : Bool), SInv P x W D c π y ([] : St) := by
  intro c
  induction c with
  | cmp op l r => intro π y; exact Or.inl ⟨rfl, rfl, rfl, rfl, rfl⟩
  | truth _ _ | pred _ _ _ => intro _ _; trivial
  | and l r ihl ihr | elseIf l r ihl ihr => intro π y; exact ⟨Or.inl ⟨rfl, rfl, rfl, rfl, rfl⟩, ihl _ _, ihr _ _⟩
  | sub _ c ih => intro π y; exact ih _ _

end Eql.Machine
