/-
  The evaluator's equations in the form the proofs use.

  The three kinds of leaves (`cmp`, `truth`, `pred`) are evaluated in one way: the operands are evaluated
  one after the other by `evalArgs` (for a comparison in the order `rightFirst` decides) and the truth value
  is read off their values; what such a closed test yields is `closedOut`.  `Leaf` records that view of a leaf together with what it means for the
  specification and for the syntactic classes; `Cond.leafInduction` is structural induction with the one
  leaf case.  The membership lemmas say what an output of a variable, of a flatten node and of a compound
  condition is.
-/
import EqlModel.Eval
import EqlModel.Lemmas.Syntax

namespace Eql
variable {V : Type}

/-- The one output of a closed condition. -/
def closedOut (β : Bnd V) (d ywf : Bool) : List (Bnd V × Bool) :=
  if d || ywf then [(β, !d)] else []

theorem mem_closedOut {β : Bnd V} {d ywf : Bool} {q : Bnd V × Bool} :
    q ∈ closedOut β d ywf ↔ q = (β, !d) ∧ (ywf = false → d = true) := by
  unfold closedOut
  cases d <;> cases ywf <;> simp

/-- `f` of the one value (`test2`: of the two values) in the list; other lengths do not occur. -/
def test1 (f : V → Bool) : List V → Bool
  | [a] => f a
  | _ => false

def test2 (f : V → V → Bool) : List V → Bool
  | [a, b] => f a b
  | _ => false

variable (W : World V) (D : VarId → List V)

/-- Under `β` the leaf `c` evaluates the operands `ts`, in this order, and is true iff `g` of their values. -/
structure Leaf (c : Cond V) (β : Bnd V) (ts : List (Term V)) (g : List V → Bool) : Prop where
  eval   : ∀ ywf, evalCond W D c β ywf = (evalArgs W D ts β).flatMap fun p => closedOut p.1 (g p.2) ywf
  denote : ∀ α, denote W α c = g (termsVal W α ts)
  ok     : ∀ α, CondOk W D α c ↔ TermsOk W D α ts
  okF    : c.okF = Terms.okF ts
  noFlat : c.noFlat = Terms.noFlat ts
  binds  : ∀ w, w ∈ c.binds ↔ w ∈ Terms.binds ts
  vars   : ∀ w, w ∈ c.vars ↔ w ∈ Terms.vars ts
  shaped : ∀ Sh, c.shaped Sh ↔ Terms.shaped Sh ts
  single : ∀ x, c.single x ↔ (∀ v ∈ Terms.vars ts, v = x) ∧ Terms.vars ts ≠ []

theorem evalArgs_one (t : Term V) (β : Bnd V) :
    evalArgs W D [t] β = (evalTerm W D t β).map fun p => (p.1, [p.2]) := by
  simp only [evalArgs, List.map_cons, List.map_nil, ← List.map_eq_flatMap]

theorem evalArgs_two (t1 t2 : Term V) (β : Bnd V) :
    evalArgs W D [t1, t2] β =
      (evalTerm W D t1 β).flatMap fun p1 => (evalTerm W D t2 p1.1).map fun p2 => (p2.1, [p1.2, p2.2]) := by
  simp only [evalArgs, List.map_cons, List.map_nil, ← List.map_eq_flatMap, List.map_map]
  rfl

theorem leaf_cmp (op : CmpOp) (l r : Term V) (β : Bnd V) : ∃ ts g, Leaf W D (.cmp op l r) β ts g := by
  by_cases h : rightFirst β r = true
  · refine ⟨[r, l], test2 fun b a => W.cmp op a b, ?_, ?_, ?_, ?_, ?_, ?_, ?_, ?_, ?_⟩
    · intro ywf
      simp only [evalCond, if_pos h, evalArgs_two, List.flatMap_assoc, List.flatMap_map]
      rfl
    · intro α; rfl
    · intro α; simp only [CondOk, TermsOk, and_comm, true_and]
    · simp only [Cond.okF, Terms.okF, Bool.and_comm, Bool.true_and]
    · simp only [Cond.noFlat, Terms.noFlat, Bool.and_comm, Bool.true_and]
    · intro w; simp only [Cond.binds, List.mem_append, Terms.binds, List.append_nil, or_comm]
    · intro w; simp only [Cond.vars, List.mem_append, Terms.vars, List.append_nil, or_comm]
    · intro Sh; simp only [Cond.shaped, Terms.shaped, and_comm, true_and]
    · intro x
      simp only [Cond.single, Terms.vars, List.append_nil, List.mem_append, or_comm, ne_eq, List.append_eq_nil_iff,
        Decidable.not_and_iff_or_not]
  · refine ⟨[l, r], test2 fun a b => W.cmp op a b, ?_, ?_, ?_, ?_, ?_, ?_, ?_, ?_, ?_⟩
    · intro ywf
      simp only [evalCond, if_neg h, evalArgs_two, List.flatMap_assoc, List.flatMap_map]
      rfl
    · intro α; rfl
    · intro α; simp only [CondOk, TermsOk, and_true]
    · simp only [Cond.okF, Terms.okF, Bool.and_true]
    · simp only [Cond.noFlat, Terms.noFlat, Bool.and_true]
    · intro w; simp only [Cond.binds, Terms.binds, List.append_nil]
    · intro w; simp only [Cond.vars, Terms.vars, List.append_nil]
    · intro Sh; simp only [Cond.shaped, Terms.shaped, and_true]
    · intro x
      simp only [Cond.single, Terms.vars, List.append_nil, ne_eq, List.append_eq_nil_iff,
        Decidable.not_and_iff_or_not]

theorem leaf_truth (inv : Bool) (t : Term V) (β : Bnd V) :
    Leaf W D (.truth inv t) β [t] (test1 fun a => W.truthy a != inv) := by
  refine ⟨?_, ?_, ?_, ?_, ?_, ?_, ?_, ?_, ?_⟩
  · intro ywf
    simp only [evalCond, evalArgs_one, List.flatMap_map, closedOut, test1, bne, Bool.not_not]
  · intro α; rfl
  · intro α; simp only [CondOk, TermsOk, and_true]
  · simp only [Cond.okF, Terms.okF, Bool.and_true]
  · simp only [Cond.noFlat, Terms.noFlat, Bool.and_true]
  · intro w; simp only [Cond.binds, Terms.binds, List.append_nil]
  · intro w; simp only [Cond.vars, Terms.vars, List.append_nil]
  · intro Sh; simp only [Cond.shaped, Terms.shaped, and_true]
  · intro x; simp only [Cond.single, ne_eq, Terms.vars, List.append_nil]

theorem leaf_pred (inv : Bool) (n : String) (args : List (Term V)) (β : Bnd V) :
    Leaf W D (.pred inv n args) β args (fun as => W.truthy (W.fn n as) != inv) := by
  refine ⟨?_, ?_, ?_, ?_, ?_, ?_, ?_, ?_, ?_⟩
  · intro ywf
    simp only [evalCond, closedOut, bne, Bool.not_not]
  all_goals intros; rfl

theorem Cond.leafInduction {motive : Cond V → Prop}
    (leaf : ∀ c, (∀ (W : World V) (D : VarId → List V) (β : Bnd V), ∃ ts g, Leaf W D c β ts g) → motive c)
    (and : ∀ l r, motive l → motive r → motive (.and l r))
    (elseIf : ∀ l r, motive l → motive r → motive (.elseIf l r))
    (sub : ∀ sel c, motive c → motive (.sub sel c)) : ∀ c, motive c
  | .cmp op l r => leaf _ fun W D β => leaf_cmp W D op l r β
  | .truth inv t => leaf _ fun W D β => ⟨_, _, leaf_truth W D inv t β⟩
  | .pred inv n args => leaf _ fun W D β => ⟨_, _, leaf_pred W D inv n args β⟩
  | .and l r => and l r (leafInduction leaf and elseIf sub l) (leafInduction leaf and elseIf sub r)
  | .elseIf l r => elseIf l r (leafInduction leaf and elseIf sub l) (leafInduction leaf and elseIf sub r)
  | .sub sel c => sub sel c (leafInduction leaf and elseIf sub c)

/-- What an id that binds itself yields: bound, its binding (`some`); unbound, one output per candidate. -/
theorem mem_bindOut {β β' : Bnd V} {a : V} {l : Option V} {outs : List (Bnd V × V)} :
    (β', a) ∈ (match l with | some b => [(β, b)] | none => outs) ↔
      (l = some a ∧ β' = β) ∨ (l = none ∧ (β', a) ∈ outs) := by
  cases l with
  | some b =>
    rw [List.mem_singleton, Prod.mk.injEq]
    exact ⟨fun h => .inl ⟨congrArg some h.2.symm, h.1⟩,
      fun h => h.elim (fun h => ⟨h.2, (Option.some.inj h.1).symm⟩) fun h => nomatch h.1⟩
  | none => exact ⟨fun h => .inr ⟨rfl, h⟩, fun h => h.elim (fun h => nomatch h.1) (·.2)⟩

theorem mem_evalTerm_var {v : VarId} {β β' : Bnd V} {a : V} :
    (β', a) ∈ evalTerm W D (.var v) β ↔
      (β.lookup v = some a ∧ β' = β) ∨ (β.lookup v = none ∧ a ∈ D v ∧ β' = (v, a) :: β) := by
  refine (mem_bindOut (l := β.lookup v)).trans ?_
  rw [List.mem_map]
  refine or_congr_right (and_congr_right fun _ => ⟨?_, fun h => ⟨a, h.1, h.2 ▸ rfl⟩⟩)
  rintro ⟨o, ho, e⟩
  cases e
  exact ⟨ho, rfl⟩

theorem mem_evalTerm_flatten {id : VarId} {t : Term V} {β β' : Bnd V} {a : V} :
    (β', a) ∈ evalTerm W D (.flatten id t) β ↔
      (β.lookup id = some a ∧ β' = β) ∨
      (β.lookup id = none ∧ ∃ p ∈ evalTerm W D t β, a ∈ W.items p.2 ∧ β' = (id, a) :: p.1) := by
  refine (mem_bindOut (l := β.lookup id)).trans ?_
  rw [List.mem_flatMap]
  refine or_congr_right (and_congr_right fun _ => exists_congr fun p => and_congr_right fun _ => ?_)
  rw [List.mem_map]
  refine ⟨?_, fun h => ⟨a, h.1, h.2 ▸ rfl⟩⟩
  rintro ⟨e, he, h⟩
  cases h
  exact ⟨he, rfl⟩

theorem evalTerm_var_unbound {x : VarId} {β : Bnd V} (h : β.lookup x = none) :
    evalTerm W D (.var x) β = (D x).map fun o => ((x, o) :: β, o) := by
  rw [evalTerm, h]

theorem evalTerm_var_self (x : VarId) (o : V) (β : Bnd V) :
    evalTerm W D (.var x) ((x, o) :: β) = [((x, o) :: β, o)] := by
  rw [evalTerm, List.lookup_cons_self]

theorem rightFirst_nil (r : Term V) : rightFirst ([] : Bnd V) r = false :=
  List.any_eq_false.2 fun _ _ => Bool.false_ne_true

theorem evalArgs_var_self (x : VarId) (o : V) (β : Bnd V) :
    (evalArgs W D [.var x] ((x, o) :: β)).map (·.2) = [[o]] := by
  rw [evalArgs_one, evalTerm_var_self]
  rfl

theorem mem_evalArgs_nil {β : Bnd V} {q : Bnd V × List V} : q ∈ evalArgs W D [] β ↔ q = (β, []) := by
  simp [evalArgs]

theorem mem_evalArgs_cons {t : Term V} {ts : List (Term V)} {β : Bnd V} {q : Bnd V × List V} :
    q ∈ evalArgs W D (t :: ts) β ↔
      ∃ p ∈ evalTerm W D t β, ∃ r ∈ evalArgs W D ts p.1, q = (r.1, p.2 :: r.2) := by
  simp only [evalArgs, List.mem_flatMap, List.mem_map, eq_comm]

theorem mem_evalCond_leaf {c : Cond V} {β : Bnd V} {ts : List (Term V)} {g : List V → Bool}
    (L : Leaf W D c β ts g) {ywf : Bool} {q : Bnd V × Bool} :
    q ∈ evalCond W D c β ywf ↔
      ∃ p ∈ evalArgs W D ts β, q = (p.1, !g p.2) ∧ (ywf = false → g p.2 = true) := by
  simp only [L.eval, List.mem_flatMap, mem_closedOut]

theorem evalCond_and_false (l r : Cond V) (β : Bnd V) :
    evalCond W D (.and l r) β false = (evalCond W D l β false).flatMap fun q => evalCond W D r q.1 false := by
  simp only [evalCond, Bool.false_and, Bool.false_eq_true, if_false]

theorem mem_evalCond_and {l r : Cond V} {β : Bnd V} {ywf : Bool} {q : Bnd V × Bool} :
    q ∈ evalCond W D (.and l r) β ywf ↔ ∃ p ∈ evalCond W D l β ywf,
      (ywf = true ∧ p.2 = true ∧ q = (p.1, true)) ∨
      (¬(ywf = true ∧ p.2 = true) ∧ q ∈ evalCond W D r p.1 ywf) := by
  simp only [evalCond, List.mem_flatMap]
  refine exists_congr fun p => and_congr_right fun _ => ?_
  cases ywf <;> cases p.2 <;> simp

theorem mem_evalCond_elseIf {l r : Cond V} {β : Bnd V} {ywf : Bool} {q : Bnd V × Bool} :
    q ∈ evalCond W D (.elseIf l r) β ywf ↔
      (evalCond W D l β true = [] ∧ q ∈ evalCond W D r β ywf) ∨
      ∃ p ∈ evalCond W D l β true,
        (p.2 = false ∧ q = (p.1, false)) ∨ (p.2 = true ∧ q ∈ evalCond W D r p.1 ywf) := by
  simp only [evalCond]
  cases h : evalCond W D l β true with
  | nil => simp
  | cons a as =>
    simp only [List.isEmpty_cons, Bool.false_eq_true, if_false, List.mem_flatMap, reduceCtorEq, false_and,
      false_or]
    refine exists_congr fun p => and_congr_right fun _ => ?_
    cases p.2 <;> simp

theorem mem_evalCond_sub {sel : List (Term V)} {c : Cond V} {β : Bnd V} {ywf : Bool} {q : Bnd V × Bool} :
    q ∈ evalCond W D (.sub sel c) β ywf ↔
      ∃ p ∈ evalCond W D c β ywf, ∃ r ∈ evalArgs W D sel p.1, q = (r.1, p.2) := by
  simp only [evalCond, List.mem_flatMap, List.mem_map, eq_comm]

theorem evalCond_flag : ∀ (c : Cond V) {β : Bnd V} {q : Bnd V × Bool}, q ∈ evalCond W D c β false → q.2 = false := by
  intro c
  induction c using Cond.leafInduction with
  | leaf c hl =>
    intro β q h
    obtain ⟨ts, g, L⟩ := hl W D β
    obtain ⟨p, _, rfl, hg⟩ := (mem_evalCond_leaf W D L).1 h
    exact (congrArg (!·) (hg rfl) :)
  | and l r _ ihr =>
    intro β q h
    obtain ⟨p, _, ⟨hy, _⟩ | ⟨_, hq⟩⟩ := (mem_evalCond_and W D).1 h
    · cases hy
    · exact ihr hq
  | elseIf l r _ ihr =>
    intro β q h
    rcases (mem_evalCond_elseIf W D).1 h with ⟨_, hq⟩ | ⟨p, _, ⟨_, rfl⟩ | ⟨_, hq⟩⟩
    · exact ihr hq
    · rfl
    · exact ihr hq
  | sub sel c ih =>
    intro β q h
    obtain ⟨p, hp, r, _, rfl⟩ := (mem_evalCond_sub W D).1 h
    exact ih (q := p) hp

/-- `hn` is what `mem_evalCond_and` says of the left output under which the right operand was evaluated. -/
theorem evalCond_left_true (c : Cond V) {β : Bnd V} {ywf : Bool} {p : Bnd V × Bool} (hp : p ∈ evalCond W D c β ywf)
    (hn : ¬(ywf = true ∧ p.2 = true)) : p.2 = false := by
  cases hy : ywf
  · exact evalCond_flag W D c (hy ▸ hp)
  · simpa [hy] using hn

end Eql
