/-
  The tree the ripple-down reading of a surface program prescribes (`expected`), and the proof that
  the imperative construction (`refineAt`, `altAt`, `buildKids`) produces it for every program
  (`c12_build_expected`).  The invariant is a zipper: the tree under construction is the leaf of the
  current node plugged into the path of frames from that leaf to the root.
-/
import EqlModel.Rules

namespace Eql
variable {V : Type}

/-- Refinements wrap the node innermost-last, so the first written is outermost (wins). -/
def wrapRefs (core : RTree V) : List (RTree V) → RTree V
  | [] => core
  | r :: rs => .exceptIf (wrapRefs core rs) r

/-- A node with its refinements and alternatives (each already assembled): alternatives are
    chained in written order around the refined node. -/
def assemble (leaf : RTree V) (refs alts : List (RTree V)) : RTree V :=
  alts.foldl RTree.alternative (wrapRefs leaf refs)

theorem assemble_induction {P : RTree V → Prop} {X : RTree V} {refs alts : List (RTree V)} (hX : P X)
    (hex : ∀ l, P l → ∀ r ∈ refs, P (.exceptIf l r)) (halt : ∀ l, P l → ∀ a ∈ alts, P (.alternative l a)) :
    P (assemble X refs alts) := by
  have h1 : ∀ rs : List (RTree V), (∀ r ∈ rs, r ∈ refs) → P (wrapRefs X rs) := by
    intro rs
    induction rs with
    | nil => intro _; exact hX
    | cons r rs ih => intro h; exact hex _ (ih fun x hx => h x (List.mem_cons_of_mem _ hx)) r (h r List.mem_cons_self)
  have h2 : ∀ (as : List (RTree V)) (Y : RTree V), P Y → (∀ a ∈ as, a ∈ alts) → P (as.foldl RTree.alternative Y) := by
    intro as
    induction as with
    | nil => intro Y hY _; exact hY
    | cons a as ih =>
      intro Y hY h
      exact ih _ (halt Y hY a (h a List.mem_cons_self)) fun x hx => h x (List.mem_cons_of_mem _ hx)
  exact h2 alts _ (h1 refs fun _ h => h) fun _ h => h

/-- Assemble the blocks written inside a node: (refinement sub-trees, alternative sub-trees,
    next free identity); identities are allotted in the order the blocks are executed. -/
def expKids : SRule V → Nat → List (RTree V) × List (RTree V) × Nat
  | .nil, next => ([], [], next)
  | .cons kind c tag inner rest, next =>
      let ri := expKids inner (next + 1)
      let sub := assemble (.leaf next c tag) ri.1 ri.2.1
      let rr := expKids rest ri.2.2
      match kind with
      | .ref => (sub :: rr.1, rr.2.1, rr.2.2)
      | .alt => (rr.1, sub :: rr.2.1, rr.2.2)

/-- The rule tree the surface program denotes. -/
def expected (c0 : Cond V) (tag0 : Nat) (kids : SRule V) : RTree V :=
  let r := expKids kids 1
  assemble (.leaf 0 c0 tag0) r.1 r.2.1

section
variable (W : World V)

/-- What ripple-down rules prescribe for one block. -/
def fireNode (α : Asg V) (c : Cond V) (tag : Nat) (inner : SRule V) : Option Nat :=
  if denote W α c then some ((fireKids W α .ref inner).getD tag) else fireKids W α .alt inner

theorem fireRule_eq_fireNode (α : Asg V) (c0 : Cond V) (tag0 : Nat) (kids : SRule V) :
    fireRule W α c0 tag0 kids = fireNode W α c0 tag0 kids := rfl

theorem fireKids_cons (α : Asg V) (m kind : Kind) (c : Cond V) (tag : Nat) (inner rest : SRule V) :
    fireKids W α m (.cons kind c tag inner rest) =
      (if kind = m then fireNode W α c tag inner else none).or (fireKids W α m rest) := by
  show (match (if kind = m then fireNode W α c tag inner else none : Option Nat) with
    | some x => some x
    | none => fireKids W α m rest) = _
  cases (if kind = m then fireNode W α c tag inner else none) <;> rfl

end

/-- One step of the path from a sub-tree to the root: the operator above it and its sibling. -/
inductive Frame (V : Type) where
  | exL (r : RTree V)      -- the hole is the left operand of an ExceptIf whose right operand is `r`
  | exR (l : RTree V)
  | altL (r : RTree V)
  | altR (l : RTree V)

def Frame.plug : Frame V → RTree V → RTree V
  | .exL r, t => .exceptIf t r
  | .exR l, t => .exceptIf l t
  | .altL r, t => .alternative t r
  | .altR l, t => .alternative l t

/-- Plug a sub-tree into a path (innermost frame first). -/
def plugF (fs : List (Frame V)) (t : RTree V) : RTree V := fs.foldl (fun t f => f.plug t) t

def Frame.left : Frame V → Bool
  | .exL _ | .altL _ => true
  | .exR _ | .altR _ => false

def RTree.ids : RTree V → List Nat
  | .leaf i _ _ => [i]
  | .exceptIf l r => l.ids ++ r.ids
  | .alternative l r => l.ids ++ r.ids

def Frame.sib : Frame V → RTree V
  | .exL t | .exR t | .altL t | .altR t => t

/-- The hole is the root or a right operand. -/
def RightPos (fs : List (Frame V)) : Prop := ∀ f, fs.head? = some f → f.left = false

theorem plugF_cons (f : Frame V) (fs : List (Frame V)) (t : RTree V) : plugF (f :: fs) t = plugF fs (f.plug t) := rfl

theorem plugF_append (fs gs : List (Frame V)) (t : RTree V) : plugF (fs ++ gs) t = plugF gs (plugF fs t) :=
  List.foldl_append

theorem ids_plug (f : Frame V) (t : RTree V) (i : Nat) : i ∈ (f.plug t).ids ↔ i ∈ t.ids ∨ i ∈ f.sib.ids := by
  cases f <;> simp only [Frame.plug, RTree.ids, Frame.sib, List.mem_append, or_comm]

theorem ids_plugF (i : Nat) : ∀ (fs : List (Frame V)) (t : RTree V),
    i ∈ (plugF fs t).ids ↔ i ∈ t.ids ∨ ∃ f ∈ fs, i ∈ f.sib.ids
  | [], t => by simp [plugF]
  | f :: fs, t => by
    rw [plugF_cons, ids_plugF i fs, ids_plug]
    simp only [List.mem_cons, exists_eq_or_imp, or_assoc]

theorem refineAt_notin (cur : Nat) (new : RTree V) : ∀ (t : RTree V), cur ∉ t.ids → RTree.refineAt cur new t = t := by
  intro t
  induction t with
  | leaf i c tag => intro h; rw [RTree.refineAt, if_neg fun e => h (List.mem_singleton.2 e.symm)]
  | exceptIf l r ihl ihr | alternative l r ihl ihr =>
    intro h; simp only [RTree.ids, List.mem_append, not_or] at h
    simp only [RTree.refineAt, ihl h.1, ihr h.2]

theorem altGo_notin (cur : Nat) (new : RTree V) : ∀ (t : RTree V), cur ∉ t.ids →
    RTree.altGo cur new t = (t, .notFound) := by
  intro t
  induction t with
  | leaf i c tag => intro h; rw [RTree.altGo, if_neg fun e => h (List.mem_singleton.2 e.symm)]
  | exceptIf l r ihl ihr | alternative l r ihl ihr =>
    intro h; simp only [RTree.ids, List.mem_append, not_or] at h
    simp only [RTree.altGo, ihl h.1, ihr h.2]

theorem refineAt_plug (cur : Nat) (new : RTree V) : ∀ (fs : List (Frame V)) (t : RTree V),
    (∀ f ∈ fs, cur ∉ f.sib.ids) → RTree.refineAt cur new (plugF fs t) = plugF fs (RTree.refineAt cur new t)
  | [], _, _ => rfl
  | f :: fs, t, h => by
    have hf := h f List.mem_cons_self
    rw [plugF_cons, plugF_cons, refineAt_plug cur new fs _ (fun g hg => h g (List.mem_cons_of_mem _ hg))]
    cases f with
    | exL s | exR s | altL s | altR s => simp only [Frame.plug, RTree.refineAt, refineAt_notin cur new s hf]

theorem altGo_plug_left (cur : Nat) (new : RTree V) : ∀ (fs : List (Frame V)) (t : RTree V),
    (∀ f ∈ fs, f.left = true) → RTree.altGo cur new t = (t, .climbing) →
    RTree.altGo cur new (plugF fs t) = (plugF fs t, .climbing)
  | [], _, _, h => h
  | f :: fs, t, hl, h => by
    refine altGo_plug_left cur new fs (f.plug t) (fun g hg => hl g (List.mem_cons_of_mem _ hg)) ?_
    have := hl f List.mem_cons_self
    cases f with
    | exL r | altL r => simp only [Frame.plug, RTree.altGo, h]
    | exR l | altR l => cases this

theorem altGo_plug_done (cur : Nat) (new : RTree V) : ∀ (fs : List (Frame V)) (t t' : RTree V),
    (∀ f ∈ fs, cur ∉ f.sib.ids) → RTree.altGo cur new t = (t', .done) →
    RTree.altGo cur new (plugF fs t) = (plugF fs t', .done)
  | [], _, _, _, h => h
  | f :: fs, t, t', h, hd => by
    refine altGo_plug_done cur new fs (f.plug t) (f.plug t') (fun g hg => h g (List.mem_cons_of_mem _ hg)) ?_
    have hf := h f List.mem_cons_self
    cases f with
    | exL r | altL r => simp only [Frame.plug, RTree.altGo, hd]
    | exR l | altR l => simp only [Frame.plug, RTree.altGo, altGo_notin cur new l hf, hd]

theorem altAt_plug (cur : Nat) (new S : RTree V) (fs : List (Frame V)) (hpos : RightPos fs)
    (hfs : ∀ f ∈ fs, cur ∉ f.sib.ids) (hS : RTree.altGo cur new S = (S, .climbing)) :
    RTree.altAt cur new (plugF fs S) = plugF fs (.alternative S new) := by
  cases fs with
  | nil => simp only [RTree.altAt, plugF, List.foldl_nil, hS]
  | cons f fs =>
    have hf := hfs f List.mem_cons_self
    have h1 : RTree.altGo cur new (f.plug S) = (f.plug (.alternative S new), .done) := by
      have := hpos f rfl
      cases f with
      | exR l | altR l => simp only [Frame.plug, RTree.altGo, altGo_notin cur new l hf, hS]
      | exL r | altL r => cases this
    unfold RTree.altAt
    rw [plugF_cons, altGo_plug_done cur new fs _ _ (fun g hg => hfs g (List.mem_cons_of_mem _ hg)) h1]
    rfl

/-- A path `ls` from a node's leaf to the top of its rule, with further refinements (innermost) and
    alternatives (outermost). -/
def grow (refs alts : List (RTree V)) (ls : List (Frame V)) : List (Frame V) :=
  refs.reverse.map .exL ++ ls ++ alts.map .altL

theorem plug_grow (X : RTree V) (refs alts : List (RTree V)) (gs : List (Frame V)) :
    plugF (grow refs alts [] ++ gs) X = plugF gs (assemble X refs alts) := by
  have hr : ∀ refs : List (RTree V), plugF (refs.reverse.map Frame.exL) X = wrapRefs X refs := by
    intro refs
    induction refs with
    | nil => rfl
    | cons r rs ih => rw [List.reverse_cons, List.map_append, plugF_append, ih]; rfl
  have ha : ∀ (alts : List (RTree V)) (Y : RTree V), plugF (alts.map Frame.altL) Y = alts.foldl RTree.alternative Y := by
    intro alts
    induction alts with
    | nil => intro Y; rfl
    | cons a as ih => intro Y; exact ih _
  rw [grow, List.append_nil, plugF_append, plugF_append, hr, ha, assemble]

theorem grow_nil (ls : List (Frame V)) : grow [] [] ls = ls := List.append_nil _

theorem grow_ref (s : RTree V) (refs alts : List (RTree V)) (ls : List (Frame V)) :
    grow (s :: refs) alts ls = grow refs alts (.exL s :: ls) := by
  simp only [grow, List.reverse_cons, List.map_append, List.append_assoc]
  rfl

theorem grow_alt (s : RTree V) (refs alts : List (RTree V)) (ls : List (Frame V)) :
    grow refs (s :: alts) ls = grow refs alts (ls ++ [.altL s]) := by
  simp only [grow, List.append_assoc]
  rfl

def RTree.idsIn (lo hi : Nat) (t : RTree V) : Prop := ∀ i ∈ t.ids, lo ≤ i ∧ i < hi

def PathIn (lo hi : Nat) (fs : List (Frame V)) : Prop := ∀ f ∈ fs, f.sib.idsIn lo hi

theorem RTree.idsIn.mono {lo hi lo' hi' : Nat} {t : RTree V} (h : t.idsIn lo hi) (h1 : lo' ≤ lo) (h2 : hi ≤ hi') :
    t.idsIn lo' hi' := fun i hi => ⟨Nat.le_trans h1 (h i hi).1, Nat.lt_of_lt_of_le (h i hi).2 h2⟩

theorem PathIn.mono {lo hi lo' hi' : Nat} {fs : List (Frame V)} (h : PathIn lo hi fs) (h1 : lo' ≤ lo) (h2 : hi ≤ hi') :
    PathIn lo' hi' fs := fun f hf => (h f hf).mono h1 h2

theorem PathIn.notin_lt {lo cur : Nat} {fs : List (Frame V)} (h : PathIn lo cur fs) : ∀ f ∈ fs, cur ∉ f.sib.ids :=
  fun f hf hc => Nat.lt_irrefl _ (h f hf cur hc).2

theorem PathIn.notin_gt {cur hi : Nat} {fs : List (Frame V)} (h : PathIn (cur + 1) hi fs) : ∀ f ∈ fs, cur ∉ f.sib.ids :=
  fun f hf hc => Nat.lt_irrefl _ (h f hf cur hc).1

theorem idsIn_leaf {lo hi j : Nat} (c : Cond V) (tag : Nat) (h1 : lo ≤ j) (h2 : j < hi) :
    (RTree.leaf j c tag).idsIn lo hi := fun i hi => by rw [List.mem_singleton.1 hi]; exact ⟨h1, h2⟩

theorem idsIn_plugF {lo hi : Nat} {t : RTree V} {fs : List (Frame V)} (ht : t.idsIn lo hi) (hfs : PathIn lo hi fs) :
    (plugF fs t).idsIn lo hi :=
  fun i hi => ((ids_plugF i fs t).1 hi).elim (ht i) (fun ⟨f, hf, h⟩ => hfs f hf i h)

theorem idsIn_assemble {lo hi : Nat} (X : RTree V) (refs alts : List (RTree V)) (hX : X.idsIn lo hi)
    (hr : ∀ t ∈ refs, t.idsIn lo hi) (ha : ∀ t ∈ alts, t.idsIn lo hi) : (assemble X refs alts).idsIn lo hi :=
  assemble_induction hX (fun _ hl r h i hi => (List.mem_append.1 hi).elim (hl i) (hr r h i))
    (fun _ hl a h i hi => (List.mem_append.1 hi).elim (hl i) (ha a h i))

theorem expKids_ids : ∀ (kids : SRule V) (next : Nat),
    next ≤ (expKids kids next).2.2 ∧
    (∀ t ∈ (expKids kids next).1, t.idsIn next (expKids kids next).2.2) ∧
    (∀ t ∈ (expKids kids next).2.1, t.idsIn next (expKids kids next).2.2) := by
  intro kids
  induction kids with
  | nil => intro next; exact ⟨Nat.le_refl _, fun _ h => (nomatch h), fun _ h => (nomatch h)⟩
  | cons kind c tag inner rest ihi ihr =>
    intro next
    obtain ⟨h1, hir, hia⟩ := ihi (next + 1)
    obtain ⟨h2, hrr, hra⟩ := ihr (expKids inner (next + 1)).2.2
    have hsub : (assemble (.leaf next c tag) (expKids inner (next + 1)).1 (expKids inner (next + 1)).2.1).idsIn next
        (expKids rest (expKids inner (next + 1)).2.2).2.2 :=
      idsIn_assemble _ _ _ (idsIn_leaf c tag (Nat.le_refl _) (Nat.lt_of_lt_of_le h1 h2))
        (fun t ht => (hir t ht).mono (Nat.le_succ _) h2) (fun t ht => (hia t ht).mono (Nat.le_succ _) h2)
    have hlo : next ≤ (expKids inner (next + 1)).2.2 := Nat.le_trans (Nat.le_succ _) h1
    have hrr' := fun t ht => (hrr t ht).mono hlo (Nat.le_refl _)
    have hra' := fun t ht => (hra t ht).mono hlo (Nat.le_refl _)
    cases kind with
    | ref => exact ⟨Nat.le_trans hlo h2, List.forall_mem_cons.2 ⟨hsub, hrr'⟩, hra'⟩
    | alt => exact ⟨Nat.le_trans hlo h2, hrr', List.forall_mem_cons.2 ⟨hsub, hra'⟩⟩

/-- The tree is the leaf of the node `cur` in its path: first the frames `ls` up to the top of its rule
    (all left operands: its refinements, innermost last, then its alternatives), then the path `fs` of
    that rule, which sits at the root or at a right operand.  Everything in `fs` is older than `cur`,
    everything in `ls` younger.  Running the blocks written inside `cur` puts the new refinements innermost
    and the new alternatives outermost in `ls`. -/
theorem buildKids_spec : ∀ (kids : SRule V) (cur next : Nat) (c : Cond V) (tag : Nat) (ls fs : List (Frame V)),
    (∀ f ∈ ls, f.left = true) → RightPos fs → cur < next → PathIn (cur + 1) next ls → PathIn 0 cur fs →
    buildKids cur kids (plugF (ls ++ fs) (.leaf cur c tag)) next =
      (plugF (grow (expKids kids next).1 (expKids kids next).2.1 ls ++ fs) (.leaf cur c tag),
        (expKids kids next).2.2) := by
  intro kids
  induction kids with
  | nil => intro cur next c tag ls fs _ _ _ _ _; rw [buildKids, expKids, grow_nil]
  | cons kind c' tag' inner rest ihi ihr =>
    intro cur next c tag ls fs hl hpos hlt hls hfs
    -- the new block: its inner blocks are run on its leaf, whatever path `gs` it was attached at
    obtain ⟨sub, n1, hinner, hn1, hsub, hexp⟩ : ∃ (sub : RTree V) (n1 : Nat),
        (∀ gs, RightPos gs → PathIn 0 next gs →
          buildKids next inner (plugF gs (.leaf next c' tag')) (next + 1) = (plugF gs sub, n1)) ∧
        next < n1 ∧ sub.idsIn (cur + 1) n1 ∧
        expKids (.cons kind c' tag' inner rest) next =
          (match kind with
            | .ref => (sub :: (expKids rest n1).1, (expKids rest n1).2.1, (expKids rest n1).2.2)
            | .alt => ((expKids rest n1).1, sub :: (expKids rest n1).2.1, (expKids rest n1).2.2)) := by
      obtain ⟨hn1, hir, hia⟩ := expKids_ids inner (next + 1)
      refine ⟨_, _, fun gs hp ho => ?_, hn1, ?_, rfl⟩
      · rw [← plug_grow]
        exact ihi next (next + 1) c' tag' [] gs (fun _ h => nomatch h) hp (Nat.lt_succ_self _) (fun _ h => nomatch h) ho
      · exact idsIn_assemble _ _ _ (idsIn_leaf c' tag' hlt hn1)
          (fun t ht => (hir t ht).mono (Nat.le_succ_of_le hlt) (Nat.le_refl _))
          (fun t ht => (hia t ht).mono (Nat.le_succ_of_le hlt) (Nat.le_refl _))
    have hleaf : (RTree.leaf cur c tag).idsIn 0 next := idsIn_leaf c tag (Nat.zero_le _) hlt
    have hls0 : PathIn 0 next ls := hls.mono (Nat.zero_le _) (Nat.le_refl _)
    have hfs0 : PathIn 0 next fs := hfs.mono (Nat.le_refl _) (Nat.le_of_lt hlt)
    have hls1 : PathIn (cur + 1) n1 ls := hls.mono (Nat.le_refl _) (Nat.le_of_lt hn1)
    rw [hexp]
    cases kind with
    | ref =>
      have ht1 : RTree.refineAt cur (.leaf next c' tag') (plugF (ls ++ fs) (.leaf cur c tag)) =
          plugF (.exR (.leaf cur c tag) :: (ls ++ fs)) (.leaf next c' tag') := by
        rw [refineAt_plug cur _ _ _ (List.forall_mem_append.2 ⟨hls.notin_gt, hfs.notin_lt⟩)]
        simp only [RTree.refineAt, if_true]; rfl
      have hin := hinner (.exR (.leaf cur c tag) :: (ls ++ fs)) (fun f hf => by cases hf; rfl)
        (List.forall_mem_cons.2 ⟨hleaf, List.forall_mem_append.2 ⟨hls0, hfs0⟩⟩)
      simp only [buildKids, ht1, hin]
      rw [grow_ref]
      exact ihr cur n1 c tag (Frame.exL sub :: ls) fs (List.forall_mem_cons.2 ⟨rfl, hl⟩) hpos (Nat.lt_trans hlt hn1)
        (List.forall_mem_cons.2 ⟨hsub, hls1⟩) hfs
    | alt =>
      have ht1 : RTree.altAt cur (.leaf next c' tag') (plugF (ls ++ fs) (.leaf cur c tag)) =
          plugF (.altR (plugF ls (.leaf cur c tag)) :: fs) (.leaf next c' tag') := by
        rw [plugF_append, altAt_plug cur _ _ fs hpos hfs.notin_lt
          (altGo_plug_left cur _ ls _ hl (by simp only [RTree.altGo, if_true]))]
        rfl
      have hin := hinner (.altR (plugF ls (.leaf cur c tag)) :: fs) (fun f hf => by cases hf; rfl)
        (List.forall_mem_cons.2 ⟨idsIn_plugF hleaf hls0, hfs0⟩)
      simp only [buildKids, ht1, hin]
      rw [show plugF (.altR (plugF ls (.leaf cur c tag)) :: fs) sub = plugF ((ls ++ [.altL sub]) ++ fs) (.leaf cur c tag) by
        rw [plugF_append, plugF_append]; rfl, grow_alt]
      exact ihr cur n1 c tag (ls ++ [Frame.altL sub]) fs
        (List.forall_mem_append.2 ⟨hl, fun f hf => by rw [List.mem_singleton.1 hf]; rfl⟩) hpos (Nat.lt_trans hlt hn1)
        (List.forall_mem_append.2 ⟨hls1, fun f hf => by rw [List.mem_singleton.1 hf]; exact hsub⟩) hfs

/-- **The transliterated imperative construction produces the prescribed tree**, for every
    surface program (any nesting and interleaving of refinement and alternative blocks). -/
theorem c12_build_expected (c0 : Cond V) (tag0 : Nat) (kids : SRule V) :
    buildRule c0 tag0 kids = expected c0 tag0 kids := by
  have := buildKids_spec kids 0 1 c0 tag0 [] [] (fun _ h => nomatch h) (fun _ h => nomatch h) Nat.zero_lt_one
    (fun _ h => nomatch h) (fun _ h => nomatch h)
  rw [buildRule, show RTree.leaf 0 c0 tag0 = plugF ([] ++ []) (.leaf 0 c0 tag0) from rfl, this, plug_grow]
  rfl

end Eql
