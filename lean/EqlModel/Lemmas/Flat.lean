/-
  Soundness and completeness of the L1 evaluator, `flatten` (UNNEST) nodes included.

  An assignment gives every flatten node the element it stands for; it is admissible (`TermOk` / `CondOk`,
  Spec.lean) when every variable takes a value of its domain AND every flatten node an element of the
  collection its operand denotes under the same assignment - "one row per inner element, correlated with
  its parent".  For terms, argument lists and conditions of the class `okF` one induction each shows what
  every output satisfies (`term_out`, `args_out`, the `CondOut` half of `cond_spec`): it extends the input
  binding by ids of the expression only (`Grows`) and carries the value the expression has under every
  assignment that extends it.  That every admissible assignment is covered by an output is `term_complete_f`,
  `args_complete_f` and the other half of `cond_spec` (for conditions the two halves need each other).
-/
import EqlModel.Lemmas.Ext
import EqlModel.Lemmas.Leaf

namespace Eql
variable {V : Type}

def Grows (bs : List VarId) (β β' : Bnd V) : Prop :=
  Sub β β' ∧ ∀ w, bound β' w = true → bound β w = true ∨ w ∈ bs

theorem grows_refl (bs : List VarId) (β : Bnd V) : Grows bs β β := ⟨sub_refl β, fun _ h => Or.inl h⟩

theorem Grows.trans {bs bs' : List VarId} {β β' β'' : Bnd V} (h : Grows bs β β') (h' : Grows bs' β' β'') :
    Grows (bs ++ bs') β β'' :=
  ⟨sub_trans h.1 h'.1, fun w hw => (h'.2 w hw).elim
    (fun h1 => (h.2 w h1).imp_right fun h2 => List.mem_append_left _ h2)
    fun h1 => Or.inr (List.mem_append_right _ h1)⟩

theorem Grows.mono {bs bs' : List VarId} {β β' : Bnd V} (h : Grows bs β β') (hs : ∀ w ∈ bs, w ∈ bs') :
    Grows bs' β β' := ⟨h.1, fun w hw => (h.2 w hw).imp_right (hs w)⟩

theorem grows_cons {β : Bnd V} {v : VarId} (o : V) (h : β.lookup v = none) (bs : List VarId) :
    Grows (v :: bs) β ((v, o) :: β) :=
  ⟨sub_cons_fresh o h, fun _ hw => (bound_cons.1 hw).elim (fun e => Or.inr (e ▸ List.mem_cons_self)) Or.inl⟩

theorem Grows.frame {bs : List VarId} {β β' : Bnd V} (h : Grows bs β β') {v : VarId} (hv : v ∉ bs) :
    β'.lookup v = β.lookup v := by
  cases hl : β.lookup v with
  | some a => exact h.1 v a hl
  | none =>
    cases hl' : β'.lookup v with
    | none => rfl
    | some b => exact ((h.2 v (bound_iff.2 ⟨b, hl'⟩)).elim (fun h1 => by simp [bound, hl] at h1) hv).elim

theorem Grows.fresh {bs : List VarId} {β β' : Bnd V} (h : Grows bs β β') {v : VarId} (hβ : β.lookup v = none)
    (hv : v ∉ bs) : β'.lookup v = none :=
  (h.frame hv).trans hβ

variable (W : World V) (D : VarId → List V)

theorem term_out : ∀ (t : Term V), t.okF = true → ∀ (β β' : Bnd V) (a : V),
    (β', a) ∈ evalTerm W D t β → Grows t.binds β β' ∧ ∀ α, Ext β' α → termVal W α t = a := by
  intro t
  induction t with
  | var v =>
    intro _ β β' a h
    rcases (mem_evalTerm_var W D).1 h with ⟨hl, rfl⟩ | ⟨hl, _, rfl⟩
    · exact ⟨grows_refl _ _, fun α hα => hα v a hl⟩
    · exact ⟨grows_cons a hl [], fun α hα => hα v a lookup_self⟩
  | lit c =>
    intro _ β β' a h
    simp only [evalTerm, List.mem_singleton, Prod.mk.injEq] at h
    obtain ⟨rfl, rfl⟩ := h
    exact ⟨grows_refl _ _, fun _ _ => rfl⟩
  | attr _ t ih | index _ t ih | call _ _ t ih =>
    intro hf β β' a h
    simp only [evalTerm, List.mem_map, Prod.mk.injEq] at h
    obtain ⟨p, hp, rfl, rfl⟩ := h
    have := ih hf β p.1 p.2 hp
    exact ⟨this.1, fun α hα => by simp only [termVal, this.2 α hα]⟩
  | flatten id t ih =>
    intro hf β β' a h
    simp only [Term.okF, Bool.and_eq_true, Bool.not_eq_true', List.contains_eq_mem,
      decide_eq_false_iff_not] at hf
    rcases (mem_evalTerm_flatten W D).1 h with ⟨hl, rfl⟩ | ⟨hl, p, hp, _, rfl⟩
    · exact ⟨grows_refl _ _, fun α hα => hα id a hl⟩
    · have g := (ih hf.1 β p.1 p.2 hp).1
      exact ⟨((g.trans (grows_cons a (g.fresh hl hf.2) [])).mono fun w hw => by
          simpa [Term.binds, or_comm] using hw),
        fun α hα => hα id a lookup_self⟩
  | concat id t _ => intro hf; cases hf

theorem term_binds_f (t : Term V) (hf : t.okF = true) (β β' : Bnd V) (a : V) (h : (β', a) ∈ evalTerm W D t β)
    (w : VarId) : bound β' w = true → (bound β w = true ∨ w ∈ t.binds) :=
  (term_out W D t hf β β' a h).1.2 w

theorem term_sound_f (t : Term V) (hf : t.okF = true) (β β' : Bnd V) (a : V) (h : (β', a) ∈ evalTerm W D t β)
    (α : Asg V) (hα : Ext β' α) : Ext β α ∧ termVal W α t = a :=
  have o := term_out W D t hf β β' a h
  ⟨ext_of_sub o.1.1 hα, o.2 α hα⟩

theorem term_complete_f : ∀ (t : Term V), t.okF = true → ∀ (β : Bnd V) (α : Asg V),
    Ext β α → TermOk W D α t → ∃ p ∈ evalTerm W D t β, Ext p.1 α := by
  intro t
  induction t with
  | var v =>
    intro _ β α hα hd
    cases hl : β.lookup v with
    | some b => exact ⟨(β, b), (mem_evalTerm_var W D).2 (.inl ⟨hl, rfl⟩), hα⟩
    | none => exact ⟨(_, α v), (mem_evalTerm_var W D).2 (.inr ⟨hl, hd, rfl⟩), ext_cons rfl hα⟩
  | lit c => intro _ β α hα _; exact ⟨(β, c), List.mem_singleton_self _, hα⟩
  | attr _ t ih | index _ t ih | call _ _ t ih =>
    intro hf β α hα hd
    obtain ⟨p, hp, he⟩ := ih hf β α hα hd
    exact ⟨_, List.mem_map.2 ⟨p, hp, rfl⟩, he⟩
  | flatten id t ih =>
    intro hf β α hα hd
    simp only [Term.okF, Bool.and_eq_true] at hf
    cases hl : β.lookup id with
    | some b => exact ⟨(β, b), (mem_evalTerm_flatten W D).2 (.inl ⟨hl, rfl⟩), hα⟩
    | none =>
      obtain ⟨p, hp, he⟩ := ih hf.1 β α hα hd.1
      have hv := (term_out W D t hf.1 β p.1 p.2 hp).2 α he
      exact ⟨(_, α id), (mem_evalTerm_flatten W D).2 (.inr ⟨hl, p, hp, hv ▸ hd.2, rfl⟩), ext_cons rfl he⟩
  | concat id t _ => intro hf; cases hf

theorem args_out : ∀ (ts : List (Term V)), Terms.okF ts = true → ∀ (β β' : Bnd V) (as : List V),
    (β', as) ∈ evalArgs W D ts β → Grows (Terms.binds ts) β β' ∧ ∀ α, Ext β' α → termsVal W α ts = as := by
  intro ts
  induction ts with
  | nil =>
    intro _ β β' as h
    cases (mem_evalArgs_nil W D).1 h
    exact ⟨grows_refl _ _, fun _ _ => rfl⟩
  | cons t ts ih =>
    intro hf β β' as h
    simp only [Terms.okF, Bool.and_eq_true] at hf
    obtain ⟨p, hp, r, hr, he⟩ := (mem_evalArgs_cons W D).1 h
    cases he
    have o1 := term_out W D t hf.1 β p.1 p.2 hp
    have o2 := ih hf.2 p.1 r.1 r.2 hr
    exact ⟨o1.1.trans o2.1, fun α hα => by
      simp only [termsVal, o1.2 α (ext_of_sub o2.1.1 hα), o2.2 α hα]⟩

theorem args_sound_f (ts : List (Term V)) (hf : Terms.okF ts = true) (β β' : Bnd V) (as : List V)
    (h : (β', as) ∈ evalArgs W D ts β) (α : Asg V) (hα : Ext β' α) : Ext β α ∧ termsVal W α ts = as :=
  have o := args_out W D ts hf β β' as h
  ⟨ext_of_sub o.1.1 hα, o.2 α hα⟩

theorem args_complete_f : ∀ (ts : List (Term V)), Terms.okF ts = true → ∀ (β : Bnd V) (α : Asg V),
    Ext β α → TermsOk W D α ts → ∃ p ∈ evalArgs W D ts β, Ext p.1 α := by
  intro ts
  induction ts with
  | nil => intro _ β α hα _; exact ⟨(β, []), (mem_evalArgs_nil W D).2 rfl, hα⟩
  | cons t ts ih =>
    intro hf β α hα hd
    simp only [Terms.okF, Bool.and_eq_true] at hf
    obtain ⟨p, hp, hpe⟩ := term_complete_f W D t hf.1 β α hα hd.1
    obtain ⟨q, hq, hqe⟩ := ih hf.2 p.1 α hpe hd.2
    exact ⟨(q.1, p.2 :: q.2), (mem_evalArgs_cons W D).2 ⟨p, hp, q, hq, rfl⟩, hqe⟩

/-- What every output `(β', f)` of a condition evaluated under `β` satisfies: it extends `β` by ids of the
    condition, and under every admissible assignment that extends it the condition has the truth value the
    output says. -/
def CondOut (c : Cond V) : Prop :=
  ∀ (β β' : Bnd V) (f ywf : Bool), (β', f) ∈ evalCond W D c β ywf →
    Grows c.binds β β' ∧ ∀ α, CondOk W D α c → Ext β' α → denote W α c = !f

def CondCompleteF (c : Cond V) : Prop :=
  ∀ (β : Bnd V) (α : Asg V) (ywf : Bool), Ext β α → CondOk W D α c →
    (ywf = true ∨ denote W α c = true) → ∃ p ∈ evalCond W D c β ywf, Ext p.1 α

theorem cond_spec : ∀ (c : Cond V), c.okF = true → CondOut W D c ∧ CondCompleteF W D c := by
  intro c
  induction c using Cond.leafInduction with
  | leaf c hc =>
    intro hf
    constructor
    · intro β β' f ywf h
      obtain ⟨ts, g, L⟩ := hc W D β
      obtain ⟨p, hp, he, _⟩ := (mem_evalCond_leaf W D L).1 h
      cases he
      have o := args_out W D ts (L.okF ▸ hf) β p.1 p.2 hp
      exact ⟨o.1.mono fun w hw => (L.binds w).2 hw, fun α _ hα => by rw [L.denote, o.2 α hα, Bool.not_not]⟩
    · intro β α ywf hα hok hy
      obtain ⟨ts, g, L⟩ := hc W D β
      obtain ⟨p, hp, e⟩ := args_complete_f W D ts (L.okF ▸ hf) β α hα ((L.ok α).1 hok)
      have hv := (args_out W D ts (L.okF ▸ hf) β p.1 p.2 hp).2 α e
      rw [L.denote, hv] at hy
      exact ⟨_, (mem_evalCond_leaf W D L).2 ⟨p, hp, rfl, fun hy' => hy.resolve_left (by rw [hy']; nofun)⟩, e⟩
  | and l r ihl ihr =>
    intro hf
    simp only [Cond.okF, Bool.and_eq_true] at hf
    obtain ⟨sl, cl⟩ := ihl hf.1
    obtain ⟨sr, cr⟩ := ihr hf.2
    constructor
    · intro β β' f ywf h
      obtain ⟨p, hp, h3⟩ := (mem_evalCond_and W D).1 h
      obtain ⟨g1, v1⟩ := sl β p.1 p.2 ywf hp
      rcases h3 with ⟨_, hp2, he⟩ | ⟨hn, hq⟩
      · cases he
        refine ⟨g1.mono fun w hw => List.mem_append_left _ hw, fun α hok hα => ?_⟩
        simp [denote, v1 α hok.1 hα, hp2]
      · obtain ⟨g2, v2⟩ := sr p.1 β' f ywf hq
        refine ⟨g1.trans g2, fun α hok hα => ?_⟩
        have hp2 := evalCond_left_true W D l hp hn
        simp [denote, v1 α hok.1 (ext_of_sub g2.1 hα), v2 α hok.2 hα, hp2]
    · intro β α ywf hα hok hy
      obtain ⟨p, hp, e⟩ := cl β α ywf hα hok.1 (hy.imp_right fun h => by
        simp only [denote, Bool.and_eq_true] at h; exact h.1)
      by_cases hc : ywf = true ∧ p.2 = true
      · exact ⟨(p.1, true), (mem_evalCond_and W D).2 ⟨p, hp, Or.inl ⟨hc.1, hc.2, rfl⟩⟩, e⟩
      · have hr : ywf = true ∨ denote W α r = true := by
          rcases hy with hy | hy
          · exact Or.inl hy
          · simp only [denote, Bool.and_eq_true] at hy; exact Or.inr hy.2
        obtain ⟨q, hq, e2⟩ := cr p.1 α ywf e hok.2 hr
        exact ⟨q, (mem_evalCond_and W D).2 ⟨p, hp, Or.inr ⟨hc, hq⟩⟩, e2⟩
  | elseIf l r ihl ihr =>
    intro hf
    simp only [Cond.okF, Bool.and_eq_true] at hf
    obtain ⟨sl, cl⟩ := ihl hf.1
    obtain ⟨sr, cr⟩ := ihr hf.2
    constructor
    · intro β β' f ywf h
      rcases (mem_evalCond_elseIf W D).1 h with ⟨hemp, hq⟩ | ⟨p, hp, h3⟩
      · -- the left operand produced nothing at all, though asked for its false outputs too: by its completeness no
        -- admissible assignment extends the output, and there is nothing to show
        obtain ⟨g2, v2⟩ := sr β β' f ywf hq
        refine ⟨g2.mono fun w hw => List.mem_append_right _ hw, fun α hok hα => ?_⟩
        obtain ⟨p, hp, _⟩ := cl β α true (ext_of_sub g2.1 hα) hok.1 (Or.inl rfl)
        rw [hemp] at hp; cases hp
      · obtain ⟨g1, v1⟩ := sl β p.1 p.2 true hp
        rcases h3 with ⟨hp2, he⟩ | ⟨hp2, hq⟩
        · cases he
          refine ⟨g1.mono fun w hw => List.mem_append_left _ hw, fun α hok hα => ?_⟩
          simp [denote, v1 α hok.1 hα, hp2]
        · obtain ⟨g2, v2⟩ := sr p.1 β' f ywf hq
          refine ⟨g1.trans g2, fun α hok hα => ?_⟩
          simp [denote, v1 α hok.1 (ext_of_sub g2.1 hα), v2 α hok.2 hα, hp2]
    · intro β α ywf hα hok hy
      obtain ⟨p, hp, e⟩ := cl β α true hα hok.1 (Or.inl rfl)
      cases hp2 : p.2
      · exact ⟨(p.1, false), (mem_evalCond_elseIf W D).2 (Or.inr ⟨p, hp, Or.inl ⟨hp2, rfl⟩⟩), e⟩
      · have hl : denote W α l = false := by rw [(sl β p.1 p.2 true hp).2 α hok.1 e, hp2]; rfl
        obtain ⟨q, hq, e2⟩ := cr p.1 α ywf e hok.2 (hy.imp_right fun h => by simpa [denote, hl] using h)
        exact ⟨q, (mem_evalCond_elseIf W D).2 (Or.inr ⟨p, hp, Or.inr ⟨hp2, hq⟩⟩), e2⟩
  | sub sel c ih =>
    intro hf
    simp only [Cond.okF, Bool.and_eq_true] at hf
    obtain ⟨sc, cc⟩ := ih hf.1
    constructor
    · intro β β' f ywf h
      obtain ⟨p, hp, q, hq, he⟩ := (mem_evalCond_sub W D).1 h
      cases he
      obtain ⟨g1, v1⟩ := sc β p.1 p.2 ywf hp
      have g2 := (args_out W D sel hf.2 p.1 q.1 q.2 hq).1
      exact ⟨g1.trans g2, fun α hok hα => v1 α hok.1 (ext_of_sub g2.1 hα)⟩
    · intro β α ywf hα hok hy
      obtain ⟨p, hp, e⟩ := cc β α ywf hα hok.1 hy
      obtain ⟨q, hq, e2⟩ := args_complete_f W D sel hf.2 p.1 α e hok.2
      exact ⟨(q.1, p.2), (mem_evalCond_sub W D).2 ⟨p, hp, q, hq, rfl⟩, e2⟩

def CondSoundF (c : Cond V) : Prop :=
  ∀ (β β' : Bnd V) (f ywf : Bool), (β', f) ∈ evalCond W D c β ywf →
    (ywf = false → f = false) ∧
    ∀ α, CondOk W D α c → Ext β' α → Ext β α ∧ denote W α c = !f

theorem cond_sound_complete_f (c : Cond V) (hf : Cond.okF c = true) : CondSoundF W D c ∧ CondCompleteF W D c :=
  have s := cond_spec W D c hf
  ⟨fun β β' f ywf h => have o := s.1 β β' f ywf h
    ⟨fun hy => evalCond_flag W D c (hy ▸ h), fun α hok hα => ⟨ext_of_sub o.1.1 hα, o.2 α hok hα⟩⟩, s.2⟩

end Eql
