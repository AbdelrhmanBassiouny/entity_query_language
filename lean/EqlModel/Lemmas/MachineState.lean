/-
  L2: the state as a map from node paths to node states; sub-trees of paths; the invariant
  "every stored duplicate constraint below ρ clashes with β".
-/
import EqlModel.Lemmas.MachineDedup

namespace Eql.Machine
open Eql
variable {V : Type}
variable (P : Params V)

theorem getNode_setNode_self (st : St) (π : Path) (n : NodeSt) : getNode (setNode st π n) π = n := by
  simp only [getNode, setNode, List.lookup_cons_self, Option.getD_some]

theorem getNode_setNode_ne (st : St) (π π' : Path) (n : NodeSt) (h : π' ≠ π) :
    getNode (setNode st π n) π' = getNode st π' := by
  rw [getNode, setNode, lookup_cons_ne _ _ h, lookup_filter_ne st h, getNode]

/-- `π'` lies in the sub-tree of the node `ρ` (child paths are `k :: parent`). -/
def InSub (ρ π' : Path) : Prop := ∃ pre : List Nat, π' = pre ++ ρ

theorem inSub_refl (ρ : Path) : InSub ρ ρ := ⟨[], rfl⟩

theorem inSub_child {k : Nat} {ρ π' : Path} (h : InSub (k :: ρ) π') : InSub ρ π' := by
  obtain ⟨pre, rfl⟩ := h
  exact ⟨pre ++ [k], List.append_cons pre k ρ⟩

theorem not_inSub_child_self (k : Nat) (ρ : Path) : ¬ InSub (k :: ρ) ρ := by
  rintro ⟨pre, h⟩
  rw [List.append_cons, List.self_eq_append_left] at h
  exact List.cons_ne_nil k [] (List.append_eq_nil_iff.1 h).2

theorem inSub_children_disjoint {j k : Nat} (hjk : j ≠ k) {ρ π' : Path} (h1 : InSub (j :: ρ) π') (h2 : InSub (k :: ρ) π') :
    False := by
  obtain ⟨p1, e1⟩ := h1
  obtain ⟨p2, e2⟩ := h2
  exact hjk (List.cons.inj (List.append_inj_right' (e1.symm.trans e2) rfl)).1

def InvOn (st : St) (R : Path → Prop) (β : Bnd V) : Prop := ∀ π', R π' → NodeOk P (getNode st π') β

theorem invOn_mono {st : St} {R : Path → Prop} {β β' : Bnd V} (h : InvOn P st R β) (hs : Sub β β') : InvOn P st R β' :=
  fun π' hπ => nodeOk_mono P (h π' hπ) hs

theorem invOn_sub {st : St} {R R' : Path → Prop} {β : Bnd V} (h : InvOn P st R β) (hr : ∀ π', R' π' → R π') :
    InvOn P st R' β := fun π' hπ => h π' (hr π' hπ)

def FrameOn (st st' : St) (R : Path → Prop) : Prop := ∀ π', ¬ R π' → getNode st' π' = getNode st π'

theorem frameOn_refl (st : St) (R : Path → Prop) : FrameOn st st R := fun _ _ => rfl

theorem frameOn_trans {s1 s2 s3 : St} {R : Path → Prop} (h1 : FrameOn s1 s2 R) (h2 : FrameOn s2 s3 R) :
    FrameOn s1 s3 R := fun π' hπ => (h2 π' hπ).trans (h1 π' hπ)

theorem frameOn_sub {s1 s2 : St} {R R' : Path → Prop} (h : FrameOn s1 s2 R) (hr : ∀ π', R π' → R' π') :
    FrameOn s1 s2 R' := fun π' hπ => h π' (fun hc => hπ (hr π' hc))

theorem frameOn_setNode (st : St) (ρ : Path) (n : NodeSt) (R : Path → Prop) (hR : R ρ) :
    FrameOn st (setNode st ρ n) R := by
  intro π' hπ
  apply getNode_setNode_ne
  intro e; subst e; exact hπ hR

theorem invOn_frame {s1 s2 : St} {R R' : Path → Prop} {β : Bnd V} (h : InvOn P s1 R' β) (hf : FrameOn s1 s2 R)
    (hd : ∀ π', R' π' → ¬ R π') : InvOn P s2 R' β := by
  intro π' hπ
  rw [hf π' (hd π' hπ)]
  exact h π' hπ

theorem nodeOk_congr {n n' : NodeSt} {β : Bnd V} (h1 : n'.seenT = n.seenT) (h2 : n'.seenF = n.seenF)
    (h : NodeOk P n β) : NodeOk P n' β := by
  unfold NodeOk at *
  rw [h1, h2]; exact h

theorem invOn_setNode {st : St} {R : Path → Prop} {β : Bnd V} (ρ : Path) (n : NodeSt) (h : InvOn P st R β)
    (hn : R ρ → NodeOk P n β) : InvOn P (setNode st ρ n) R β := by
  intro π' hπ
  by_cases e : π' = ρ
  · subst e; rw [getNode_setNode_self]; exact hn hπ
  · rw [getNode_setNode_ne st ρ π' n e]; exact h π' hπ

theorem invOn_extend {s1 s2 : St} {R R' : Path → Prop} {β : Bnd V} (h : InvOn P s1 R' β) (hf : FrameOn s1 s2 R)
    (hr : InvOn P s2 R β) : InvOn P s2 R' β := by
  intro π' hπ
  by_cases e : R π'
  · exact hr π' e
  · rw [hf π' e]; exact h π' hπ

end Eql.Machine
