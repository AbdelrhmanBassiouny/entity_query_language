/-
  A result cache with ONE key (every operator cache of a single-variable query): its trie is a list
  of (value ↦ output) pairs in insertion order; insert updates in place or appends; a lookup that
  binds the key returns the stored output, a lookup that does not returns everything in order;
  a poisoned cache (`seen.allSeen`) claims to cover every lookup.
-/
import EqlModel.Lemmas.CacheLemmas

namespace Eql.Cache
variable {A O : Type}
open Trie

/-- The one-level trie holding the given pairs, in order. -/
def ofList : List (A × O) → Trie A O
  | [] => .nil
  | (v, o) :: rest => .cons (.val v) (.leaf o) (ofList rest)

theorem ofList_ne_leaf (E : List (A × O)) (o : O) : ofList E ≠ .leaf o := by
  cases E <;> exact fun h => nomatch h

theorem children_ofList (E : List (A × O)) :
    children (ofList E) = E.map fun p => ((.val p.1 : Key A), (.leaf p.2 : Trie A O)) := by
  induction E with
  | nil => rfl
  | cons p rest ih => rw [ofList, children, ih]; rfl

theorem ofList_inj : ∀ (E E' : List (A × O)), ofList E = ofList E' → E = E' := by
  intro E
  induction E with
  | nil =>
    intro E' h
    cases E' with
    | nil => rfl
    | cons p rest => cases h
  | cons p rest ih =>
    intro E' h
    cases E' with
    | nil => cases h
    | cons p' rest' =>
      simp only [ofList, Trie.cons.injEq, Key.val.injEq, Trie.leaf.injEq] at h
      rw [Prod.ext h.1 h.2.1, ih rest' h.2.2]

/-- A cache with the single key `k` whose trie holds the pairs `E`. -/
structure One (c : Cache A O) (k : Nat) (E : List (A × O)) : Prop where
  keys : c.keys = [k]
  trie : c.trie = ofList E

theorem one_unique {c : Cache A O} {k : Nat} {E E' : List (A × O)} (h : One c k E) (h' : One c k E') : E' = E :=
  ofList_inj E' E (h'.trie.symm.trans h.trie)

variable [DecidableEq A]

/-- Replace the output stored under `v`, or append the pair. -/
def upd : List (A × O) → A → O → List (A × O)
  | [], v, o => [(v, o)]
  | (w, p) :: rest, v, o => if w = v then (w, o) :: rest else (w, p) :: upd rest v o

theorem insert_ofList (E : List (A × O)) (v : A) (o : O) :
    Trie.insert o (ofList E) [.val v] = ofList (upd E v o) := by
  induction E with
  | nil => rfl
  | cons p rest ih =>
    rw [ofList, upd, Trie.insert]
    by_cases e : p.1 = v
    · rw [if_pos e, if_pos (congrArg Key.val e)]; rfl
    · rw [if_neg e, if_neg fun h => e (Key.val.inj h), ih]; rfl

theorem child_val_ofList (E : List (A × O)) (v : A) :
    child? (.val v) (ofList E) = (E.lookup v).map Trie.leaf := by
  induction E with
  | nil => rfl
  | cons p rest ih =>
    rw [ofList, child?]
    by_cases e : p.1 = v
    · rw [if_pos (congrArg Key.val e), ← e, List.lookup_cons_self]; rfl
    · rw [if_neg fun h => e (Key.val.inj h), ih, lookup_cons_ne rest p.2 (Ne.symm e)]

theorem child_all_ofList (E : List (A × O)) : child? (.all : Key A) (ofList E) = none := by
  induction E with
  | nil => rfl
  | cons p rest ih => rw [ofList, child?, if_neg fun h => nomatch h]; exact ih

theorem retrieve_bound {c : Cache A O} {k : Nat} {E : List (A × O)} (h : One c k E) (v : A) :
    c.retrieve [(k, v)] = match E.lookup v with
      | some o => [([(k, v)], o)]
      | none => [] := by
  rw [retrieve_eq_retr, h.keys, h.trie, retr_bound_key (List.lookup_cons_self ..) [] _ (ofList_ne_leaf E),
    child_val_ofList, child_all_ofList]
  cases E.lookup v <;> rfl

theorem retrieve_free {c : Cache A O} {k : Nat} {E : List (A × O)} (h : One c k E) :
    c.retrieve [] = E.map fun p => ([(k, p.1)], p.2) := by
  rw [retrieve_eq_retr, h.keys, h.trie, retr_free_key rfl [] _ (ofList_ne_leaf E), child_all_ofList, children_ofList,
    List.flatMap_map, List.map_eq_flatMap]
  rfl

theorem insert_one {c : Cache A O} {k : Nat} {E : List (A × O)} (h : One c k E) (v : A) (o : O) :
    One (c.insert [(k, v)] o) k (upd E v o) ∧ (c.insert [(k, v)] o).seen = c.seen.add [(k, v)] ∧
    (c.insert [(k, v)] o).flat = c.flat := by
  have hp : Cache.path c.keys [(k, v)] = [.val v] := by
    rw [h.keys, Cache.path, List.map_cons, List.map_nil, Asg.get, List.lookup_cons_self]
  refine ⟨⟨h.keys, ?_⟩, rfl, rfl⟩
  show Trie.insert o c.trie (Cache.path c.keys [(k, v)]) = _
  rw [hp, h.trie, insert_ofList]

theorem lookup_upd_self (E : List (A × O)) (v : A) (o : O) : (upd E v o).lookup v = some o := by
  induction E with
  | nil => exact List.lookup_cons_self
  | cons p rest ih =>
    rw [upd]
    split
    · next e => rw [e]; exact List.lookup_cons_self
    · next e => rw [lookup_cons_ne _ _ (Ne.symm e), ih]

theorem lookup_upd_ne (E : List (A × O)) (v v' : A) (o : O) (h : v' ≠ v) :
    (upd E v o).lookup v' = E.lookup v' := by
  induction E with
  | nil => exact lookup_cons_ne [] o h
  | cons p rest ih =>
    rw [upd]
    split
    · next e => rw [lookup_cons_ne _ _ (e ▸ h), lookup_cons_ne _ _ (e ▸ h)]
    · rw [List.lookup_cons, List.lookup_cons, ih]

theorem upd_fresh (E : List (A × O)) (v : A) (o : O) (h : E.lookup v = none) : upd E v o = E ++ [(v, o)] := by
  induction E with
  | nil => rfl
  | cons p rest ih =>
    have e : p.1 ≠ v := fun e => by rw [← e, List.lookup_cons_self] at h; cases h
    rw [lookup_cons_ne _ _ (Ne.symm e)] at h
    rw [upd, if_neg e, ih h]; rfl

theorem foldl_upd_fresh {α : Type} (v : α → A) (o : α → O) : ∀ (L : List α) (E : List (A × O)),
    (L.map v).Nodup → (∀ a ∈ L, E.lookup (v a) = none) →
    L.foldl (fun E a => upd E (v a) (o a)) E = E ++ L.map fun a => (v a, o a) := by
  intro L
  induction L with
  | nil => intro E _ _; exact (List.append_nil E).symm
  | cons a L ih =>
    intro E hnd hfresh
    rw [List.map_cons, List.nodup_cons] at hnd
    rw [List.foldl_cons, upd_fresh E _ _ (hfresh a List.mem_cons_self), ih _ hnd.2, List.append_assoc]
    · rfl
    · intro b hb
      have hne : v b ≠ v a := fun e => hnd.1 (e ▸ List.mem_map_of_mem hb)
      rw [List.lookup_append, hfresh b (List.mem_cons_of_mem _ hb), lookup_cons_ne _ _ hne]
      rfl

theorem foldl_insert_one {α : Type} (v : α → A) (o : α → O) {k : Nat} :
    ∀ (L : List α) {c : Cache A O} {E : List (A × O)}, One c k E → c.seen.allSeen = true →
    One (L.foldl (fun c a => c.insert [(k, v a)] (o a)) c) k (L.foldl (fun E a => upd E (v a) (o a)) E) ∧
    (L.foldl (fun c a => c.insert [(k, v a)] (o a)) c).seen = c.seen ∧
    (L.foldl (fun c a => c.insert [(k, v a)] (o a)) c).flat = c.flat := by
  intro L
  induction L with
  | nil => intro c E h _; exact ⟨h, rfl, rfl⟩
  | cons a L ih =>
    intro c E h hall
    obtain ⟨i1, i2, i3⟩ := insert_one h (v a) (o a)
    rw [SeenSet.add, if_pos hall] at i2
    obtain ⟨j1, j2, j3⟩ := ih i1 (i2 ▸ hall)
    exact ⟨j1, j2.trans i2, j3.trans i3⟩

theorem check_allSeen {c : Cache A O} (h : c.seen.allSeen = true) (a : Asg A) : c.check a = (true, c) := by
  rw [Cache.check, SeenSet.check, if_pos h]

theorem check_nil {c : Cache A O} (h : c.seen.allSeen = false) :
    c.check [] = (false, { c with seen := { seen := c.seen.seen ++ [[]], allSeen := true } }) := by
  rw [Cache.check, List.filter_nil, SeenSet.check, if_neg (by rw [h]; exact Bool.false_ne_true)]
  rfl

end Eql.Cache
