/-
  L2 with the result cache ENABLED, single-variable queries: ANY and/or tree evaluated the way a query
  evaluates it (`x` unbound at the root).  The left-most leaf enumerates the domain (under the flag its
  position gives it), every other node is consulted with `x` bound (`MachineTree.lean`).
-/
import EqlModel.Lemmas.MachineTree

namespace Eql.Machine
open Eql
variable {V : Type}
variable (P : Params V) (x : VarId)
variable (W : World V) (D : VarId → List V)

/-- The caches of a tree evaluated with `x` unbound: its left-most leaf is consulted unbound, every right
    operand bound. -/
def TopInv : Cond V → Path → Bool → St → Prop
  | .cmp op l r, π, y, st => TSpecY P x D (getNode st π).cache y (Hc W (.cmp op l r))
  | .and l r, π, y, st =>
      BSpecY P x D (getNode st π).rcache y (Hc W r) ∧ TopInv l (0 :: π) y st ∧ SInv P x W D r (1 :: π) y st
  | .elseIf l r, π, y, st =>
      BSpecY P x D (getNode st π).rcache y (Hc W r) ∧ TopInv l (0 :: π) true st ∧ SInv P x W D r (1 :: π) y st
  | .sub _ c, π, y, st => TopInv c (0 :: π) y st
  | _, _, _, _ => True

theorem topInv_local : ∀ (c : Cond V) (π : Path) (y : Bool), CacheLocal π (TopInv P x W D c π y) := by
  intro c
  induction c with
  | cmp op l r => intro π y; exact cacheLocal_cache π fun c => TSpecY P x D c y (Hc W (.cmp op l r))
  | truth _ _ | pred _ _ _ => intro π _; exact cacheLocal_true π
  | and l r ihl _ | elseIf l r ihl _ =>
    intro π y
    exact cacheLocal_and (cacheLocal_rcache π fun c => BSpecY P x D c y (Hc W r))
      (cacheLocal_and (cacheLocal_child (ihl _ _)) (cacheLocal_child (sinv_local P x W D r _ _)))
  | sub _ c ih => intro π y; exact cacheLocal_child (ih _ _)

theorem flatMap_and_y (l r : Cond V) (y : Bool) :
    (yObjs x D y (Hc W l)).flatMap (fun o =>
        if (y && !Hc W l o) = true then [(([(x, o)] : Bnd V), true)] else singleOut W r x y o) =
      (D x).flatMap (singleOut W (.and l r) x y) := by
  rw [yObjs, ← flatMap_ite]
  exact flatMap_congr_mem fun o _ => (singleOut_andStep x W l r y o).symm

theorem flatMap_or_y (l r : Cond V) (y : Bool) :
    (yObjs x D true (Hc W l)).flatMap (fun o =>
        if (!Hc W l o) = true then singleOut W r x y o else [(([(x, o)] : Bnd V), false)]) =
      (D x).flatMap (singleOut W (.elseIf l r) x y) := by
  rw [yObjs, List.filter_eq_self.2 fun o _ => Bool.or_true _]
  exact flatMap_congr_mem fun o _ => (singleOut_orStep x W l r y o).symm

variable [BEq V]

theorem clash_objs (hk : KeyOk P x D) (o o' : V) (ho : o ∈ D x) (ho' : o' ∈ D x) (hne : o ≠ o') :
    Clash P.toKey ([(x, o)] : Bnd V) [(x, o')] :=
  ⟨x, o, o', lookup_self, lookup_self, fun e => hne (hk.inj o ho o' ho' e)⟩

/-- `fold_upd` for the loop of an AND / ElseIf node over distinct objects; what the loop keeps is the specification of the
    node's cache and `SInv` of the right operand. -/
theorem nodeFold (hk : KeyOk P x D) (π : Path) (y : Bool) (r : Cond V)
    (step : List (Bnd V × Bool) × St → Bnd V × Bool → List (Bnd V × Bool) × St)
    (g : V → Bool) (outF : V → List (Bnd V × Bool))
    (hstep : ∀ o ∈ D x, ∀ acc : List (Bnd V × Bool) × St,
      BSpecY P x D (getNode acc.2 π).rcache y (Hc W r) → SInv P x W D r (1 :: π) y acc.2 →
      InvOn P acc.2 (RegR π) [(x, o)] →
      (step acc ([(x, o)], g o)).1 = acc.1 ++ outF o ∧
      BSpecY P x D (getNode (step acc ([(x, o)], g o)).2 π).rcache y (Hc W r) ∧
      SInv P x W D r (1 :: π) y (step acc ([(x, o)], g o)).2 ∧
      FrameOn acc.2 (step acc ([(x, o)], g o)).2 (RegR π) ∧
      ∀ β₂ : Bnd V, InvOn P acc.2 (RegR π) β₂ → Clash P.toKey [(x, o)] β₂ →
        InvOn P (step acc ([(x, o)], g o)).2 (RegR π) β₂) :
    ∀ (L : List V), L.Nodup → (∀ o ∈ L, o ∈ D x) → ∀ (acc : List (Bnd V × Bool) × St),
      BSpecY P x D (getNode acc.2 π).rcache y (Hc W r) → SInv P x W D r (1 :: π) y acc.2 →
      (∀ o ∈ L, InvOn P acc.2 (RegR π) [(x, o)]) →
      ((L.map fun o => (([(x, o)] : Bnd V), g o)).foldl step acc).1 = acc.1 ++ L.flatMap outF ∧
      BSpecY P x D (getNode ((L.map fun o => (([(x, o)] : Bnd V), g o)).foldl step acc).2 π).rcache y (Hc W r) ∧
      SInv P x W D r (1 :: π) y ((L.map fun o => (([(x, o)] : Bnd V), g o)).foldl step acc).2 ∧
      FrameOn acc.2 ((L.map fun o => (([(x, o)] : Bnd V), g o)).foldl step acc).2 (RegR π) := by
  intro L hnd hL acc h1 h2 h3
  obtain ⟨f1, f2, f3⟩ := fold_upd (fun o => (([(x, o)] : Bnd V), g o))
    (fun s => BSpecY P x D (getNode s π).rcache y (Hc W r) ∧ SInv P x W D r (1 :: π) y s) (RegR π) outF step L
    (hnd.imp_of_mem fun ha hb hne => clash_objs P x D hk _ _ (hL _ ha) (hL _ hb) hne)
    (fun acc o ho hI hi => let h := hstep o (hL o ho) acc hI.1 hI.2 hi; ⟨h.1, ⟨h.2.1, h.2.2.1⟩, h.2.2.2⟩)
    acc ⟨h1, h2⟩ h3
  exact ⟨f1, f2.1, f2.2, f3.1⟩

/-- An AND / ElseIf node in top position, after its left operand (evaluated under `yl`, leaving `sL`) has enumerated
    the domain.  The left operand's sub-tree (with its invariant `invL`), the node and the right operand's sub-tree
    are disjoint parts of the state. -/
theorem topNode (hk : KeyOk P x D) (π : Path) (y yl : Bool) (l r : Cond V)
    (step : List (Bnd V × Bool) × St → Bnd V × Bool → List (Bnd V × Bool) × St) (outF : V → List (Bnd V × Bool))
    (hstep : ∀ o ∈ D x, ∀ acc : List (Bnd V × Bool) × St,
      BSpecY P x D (getNode acc.2 π).rcache y (Hc W r) → SInv P x W D r (1 :: π) y acc.2 →
      InvOn P acc.2 (RegR π) [(x, o)] →
      (step acc ([(x, o)], !Hc W l o)).1 = acc.1 ++ outF o ∧
      NodeStep P x W D π y r o acc.2 (step acc ([(x, o)], !Hc W l o)).2)
    (s sL : St) (hB : BSpecY P x D (getNode s π).rcache y (Hc W r)) (hR : SInv P x W D r (1 :: π) y s)
    (hdd : ∀ o ∈ D x, InvOn P s (InSub π) [(x, o)])
    (invL : St → Prop) (hloc : CacheLocal (0 :: π) invL) (l2 : invL sL) (l3 : FrameOn s sL (InSub (0 :: π))) :
    ∃ s', ((yObjs x D yl (Hc W l)).map fun o => (([(x, o)] : Bnd V), !Hc W l o)).foldl step ([], sL) =
        ((yObjs x D yl (Hc W l)).flatMap outF, s') ∧
      (BSpecY P x D (getNode s' π).rcache y (Hc W r) ∧ invL s' ∧ SInv P x W D r (1 :: π) y s') ∧
      FrameOn s s' (InSub π) := by
  have hsubD : ∀ o ∈ yObjs x D yl (Hc W l), o ∈ D x := fun o ho => (List.mem_filter.1 ho).1
  obtain ⟨f1, f2, f3, f4⟩ := nodeFold P x W D hk π y r step (fun o => !Hc W l o) outF hstep
    (yObjs x D yl (Hc W l)) (hk.nodup.filter _) hsubD ([], sL)
    (by rw [l3 π (not_inSub_child_self 0 π)]; exact hB)
    (sinv_frame P x W D r _ _ _ _ (fun π' h => l3 π' fun h0 => inSub_children_disjoint (by decide) h0 h) hR)
    (fun o ho => invOn_frame P (invOn_sub P (hdd o (hsubD o ho)) (regR_sub π)) l3 (regR_not_left π))
  exact ⟨_, Prod.ext f1 rfl, ⟨f2, hloc.frame (fun π' h => f4 π' fun hr => regR_not_left π π' hr h) l2, f3⟩,
    frameOn_trans (frameOn_sub l3 (fun π' h => inSub_child h)) (frameOn_sub f4 (regR_sub π))⟩

/-- The caches of the query `and_(c₁, c₂)`: `c₁` conjunctive with its left-most leaf consulted with `x`
    unbound, `c₂` any and/or tree consulted with `x` bound. -/
def TInv (c1 c2 : Cond V) (π : Path) (st : St) : Prop :=
  BSpecY P x D (getNode st π).rcache false (Hc W c2) ∧ CInvT P x W D c1 (0 :: π) st ∧
    SInv P x W D c2 (1 :: π) false st

/-- **Top position.**  `and_(c₁, c₂)` evaluated the way a query evaluates it (`x` unbound), result cache
    enabled, duplicate tracking sets clean: the L1 outputs over the whole domain, in order. -/
theorem top_tree_ok [Inhabited V] (hk : KeyOk P x D) (hinj : Function.Injective P.rank) (c1 c2 : Cond V)
    (hc1 : Cond.conj c1 = true) (hc2 : Cond.tree c2 = true) (hs1 : Cond.single x c1) (hs2 : Cond.single x c2)
    (hf1 : c1.noFlat = true) (hf2 : c2.noFlat = true) (π : Path) (req : ReqFn) (s : St)
    (hinv : TInv P x W D c1 c2 π s) (hclean : DedupClean s) :
    (evalM W D P true (.and c1 c2) π req [] false s).1 = (D x).flatMap (singleOut W (.and c1 c2) x false) ∧
    TInv P x W D c1 c2 π (evalM W D P true (.and c1 c2) π req [] false s).2 := by
  obtain ⟨l1, l2, l3⟩ := top_ok P x W D hk c1 hc1 hs1 hf1 (0 :: π) (reqLeftOfAnd c2.vars req) s hinv.2.1
  obtain ⟨s', e, f2, _⟩ := topNode P x W D hk π false false c1 c2
    (andStep P true π req false c2.vars (fun b s => evalM W D P true c2 (1 :: π) (reqRightOfAnd req) b false s))
    (fun o => if (false && !Hc W c1 o) = true then [(([(x, o)] : Bnd V), true)] else singleOut W c2 x false o)
    (fun o ho acc => andStep_y P x W D hk hinj π req false c2 (onlyX_of_single_tree x c2 hc2 hs2) _ o ho
      (bound_ok_y P x W D hk hinj c2 hc2 hs2 hf2 (1 :: π) false (reqRightOfAnd req) o ho) acc (!Hc W c1 o))
    s _ hinv.1 hinv.2.2 (fun o _ => invOn_of_clean P hclean _ _) _ (cinvT_local P x W D c1 _) l2 l3
  rw [flatMap_singleOut_y] at l1
  simp only [evalM, l1, e]
  exact ⟨flatMap_and_y x W D c1 c2 false, f2⟩

/-- **Result caching is transparent for single-variable queries `and_(c₁, c₂)`** - `c₁` a comparison /
    truth test / predicate / conjunction of those (the conjunct that enumerates the domain), `c₂` ANY tree
    of conjunctions, disjunctions and sub-queries in condition position over comparisons, truth tests and
    predicates (negations pushed to the leaves, as `not_` builds them); both flatten-free with every leaf mentioning
    the variable, the domain of distinct objects (`KeyOk`, `hinj`).  One evaluation by the stateful machine with
    the result cache ENABLED, from any state whose caches meet their specification and whose duplicate tracking sets
    are clean, yields exactly the rows of the L1 evaluation, in order - and leaves such a state. -/
theorem rowsM_on_tree [Inhabited V] (hk : KeyOk P x D) (hinj : Function.Injective P.rank) (q : Query V)
    (c1 c2 : Cond V) (hq : q.cond = some (.and c1 c2))
    (hc1 : Cond.conj c1 = true) (hc2 : Cond.tree c2 = true) (hs1 : Cond.single x c1) (hs2 : Cond.single x c2)
    (hf1 : c1.noFlat = true) (hf2 : c2.noFlat = true) (st : St)
    (hst : TInv P x W D c1 c2 [] st) (hclean : DedupClean st) :
    (rowsM W D P true q st).1 = rows W D q ∧ TInv P x W D c1 c2 [] (rowsM W D P true q st).2 ∧
      DedupClean (rowsM W D P true q st).2 := by
  obtain ⟨h1, h2⟩ := top_tree_ok P x W D hk hinj c1 c2 hc1 hc2 hs1 hs2 hf1 hf2 [] (fun _ => q.sel.flatMap Term.binds)
    st hst hclean
  refine ⟨rowsM_of_outs W D P true q _ hq st (h1.trans
    (cond_dist W D x (.and c1 c2) (Bool.and_eq_true_iff.2 ⟨hf1, hf2⟩) ⟨hs1, hs2⟩ false).symm), ?_⟩
  simp only [rowsM, hq]
  exact ⟨⟨by rw [getNode_resetDedup]; exact h2.1, (cinvT_local P x W D c1 _).reset h2.2.1,
    sinv_reset P x W D c2 _ _ _ h2.2.2⟩, dedupClean_reset _⟩

theorem tinv_nil (c1 c2 : Cond V) : TInv P x W D c1 c2 [] ([] : St) :=
  ⟨Or.inl ⟨rfl, rfl, rfl, rfl, rfl⟩, cinvT_nil P x W D c1 _, sinv_nil P x W D c2 _ _⟩

theorem rowsM_on_tree_iter [Inhabited V] (hk : KeyOk P x D) (hinj : Function.Injective P.rank) (q : Query V)
    (c1 c2 : Cond V) (hq : q.cond = some (.and c1 c2))
    (hc1 : Cond.conj c1 = true) (hc2 : Cond.tree c2 = true) (hs1 : Cond.single x c1) (hs2 : Cond.single x c2)
    (hf1 : c1.noFlat = true) (hf2 : c2.noFlat = true) :
    ∀ (n : Nat) (st : St), TInv P x W D c1 c2 [] st → DedupClean st →
      (rowsM W D P true q (afterEvalsOn P W D q n st)).1 = rows W D q :=
  fun n st hst hcl => rowsM_iter P W D q (fun s => TInv P x W D c1 c2 [] s ∧ DedupClean s)
    (fun s hs => rowsM_on_tree P x W D hk hinj q c1 c2 hq hc1 hc2 hs1 hs2 hf1 hf2 s hs.1 hs.2) n st ⟨hst, hcl⟩

theorem topInv_nil : ∀ (c : Cond V) (π : Path) (y : Bool), TopInv P x W D c π y ([] : St) := by
  intro c
  induction c with
  | cmp op l r => intro π y; exact Or.inl ⟨rfl, rfl, rfl, rfl, rfl⟩
  | truth _ _ | pred _ _ _ => intro _ _; trivial
  | and l r ihl _ | elseIf l r ihl _ =>
    intro π y; exact ⟨Or.inl ⟨rfl, rfl, rfl, rfl, rfl⟩, ihl _ _, sinv_nil P x W D r _ _⟩
  | sub _ c ih => intro π y; exact ih _ _

/-- Stored outputs of distinct objects are served one after the other: each false one passes the duplicate check,
    which leaves the node fine for the objects still to come (they differ from it). -/
theorem serveAll_ok (hk : KeyOk P x D) (hinj : Function.Injective P.rank) (req : ReqFn) (g : V → Bool) :
    ∀ (L : List V), L.Nodup → (∀ o ∈ L, o ∈ D x) → ∀ (n : NodeSt), (∀ o ∈ L, NodeOk P n [(x, o)]) →
      ∃ n', serveAll P req (L.map fun o => (([(x, o)] : Bnd V), g o)) n = (L.map fun o => ([(x, o)], g o), n') ∧
        n'.cache = n.cache ∧ n'.rcache = n.rcache := by
  intro L
  induction L with
  | nil => intro _ _ n _; exact ⟨n, rfl, rfl, rfl⟩
  | cons o os ih =>
    intro hnd hL n hn
    rw [List.nodup_cons] at hnd
    have ho := hL o List.mem_cons_self
    have hL' : ∀ o' ∈ os, o' ∈ D x := fun o' ho' => hL o' (List.mem_cons_of_mem _ ho')
    obtain ⟨n1, s1, c1, c2, c3⟩ := serve_ok P x hinj req true (!g o) o nofun n (hn o List.mem_cons_self)
    rw [Bool.not_not, closedOut_true, Bool.not_not] at s1
    obtain ⟨n', h1, h2, h3⟩ := ih hnd.2 hL' n1 fun o' ho' =>
      c3 _ (hn o' (List.mem_cons_of_mem _ ho')) (clash_objs P x D hk o o' ho (hL' o' ho') fun e => hnd.1 (e ▸ ho'))
    exact ⟨n', by rw [List.map_cons, serveAll, s1, h1]; rfl, h2.trans c1, h3.trans c2⟩

theorem fromCache_top_fold (hk : KeyOk P x D) (hinj : Function.Injective P.rank) {vars : List VarId}
    (hv : OnlyX x vars) (req : ReqFn) (g : V → Bool) :
    ∀ (L : List V), L.Nodup → (∀ o ∈ L, o ∈ D x) → ∀ (acc : List (Bnd V × Bool)) (n : NodeSt),
      (∀ o ∈ L, NodeOk P n [(x, o)]) →
      ∃ n', (L.map fun o => (([(P.rank x, P.toKey o)] : Cache.Asg Nat), g o)).foldl
          (fun (a : List (Bnd V × Bool) × NodeSt) r =>
            let out := fromAsg P vars r.1 ([] : Bnd V)
            if r.2 then
              let d := isDup P req true out a.2
              if d.1 then (a.1, d.2) else (a.1 ++ [(out, true)], d.2)
            else (a.1 ++ [(out, false)], a.2)) (acc, n) =
        (acc ++ L.map fun o => (([(x, o)] : Bnd V), g o), n') ∧ n'.cache = n.cache ∧ n'.rcache = n.rcache := by
  intro L hnd hL acc n hn
  obtain ⟨n', h1, h2, h3⟩ := serveAll_ok P x D hk hinj req g L hnd hL n hn
  refine ⟨n', ?_, h2, h3⟩
  have hout : (L.map fun o => (([(P.rank x, P.toKey o)] : Cache.Asg Nat), g o)).map
      (fun r => (fromAsg P vars r.1 ([] : Bnd V), r.2)) = L.map fun o => ([(x, o)], g o) := by
    rw [List.map_map]
    exact List.map_congr_left fun o ho => by
      show (fromAsg P vars [(P.rank x, P.toKey o)] [], g o) = _
      rw [fromAsg_unbound P x hv, hk.inv o (hL o ho)]
  rw [foldl_serve, hout, h1]

theorem cmp_top_y [Inhabited V] (hk : KeyOk P x D) (hinj : Function.Injective P.rank) (op : CmpOp) (l r : Term V)
    (hv : OnlyX x (l.vars ++ r.vars)) (hf : (Cond.cmp op l r).noFlat = true) (hs : Cond.single x (.cmp op l r))
    (y : Bool) (π : Path) (req : ReqFn) (st : St)
    (hspec : TSpecY P x D (getNode st π).cache y (Hc W (.cmp op l r)))
    (hn : ∀ o ∈ D x, NodeOk P (getNode st π) [(x, o)]) :
    ∃ n', evalM W D P true (.cmp op l r) π req [] y st =
        ((D x).flatMap (singleOut W (.cmp op l r) x y), setNode st π n') ∧
      TSpecY P x D n'.cache y (Hc W (.cmp op l r)) ∧ n'.rcache = (getNode st π).rcache := by
  rcases hspec with h | ⟨h3, hall, hone⟩
  · -- first pass: everything is computed and stored (false outputs too when they are asked for)
    obtain ⟨c', he, hts⟩ := cmp_top_first P x W D hk op l r hv hf hs y π req st h
    exact ⟨_, he, hts, rfl⟩
  · -- later passes: served from the poisoned cache, false outputs through the duplicate check, which they pass
    have hsubD : ∀ o ∈ yObjs x D y (Hc W (.cmp op l r)), o ∈ D x := fun o ho => (List.mem_filter.1 ho).1
    obtain ⟨n', hserve, hc1, hc2⟩ := serveAll_ok P x D hk hinj req (fun o => !Hc W (.cmp op l r) o)
      (yObjs x D y (Hc W (.cmp op l r))) (hk.nodup.filter _) hsubD (getNode st π) fun o ho => hn o (hsubD o ho)
    refine ⟨n', ?_, hc1 ▸ Or.inr ⟨h3, hall, hone⟩, hc2⟩
    rw [evalM_cmp_hit (by rw [mkCache_one P _ hone]; exact Cache.check_allSeen hall _), flatMap_singleOut_y,
      fromCache_free P x D hk hv req _ hsubD hone, hserve]

/-- **Top position, any and/or tree.**  The tree evaluated with `x` unbound, result cache enabled, every
    node of it fine (duplicate tracking) for every object of the non-empty domain: the L1 outputs over
    the whole domain, in order. -/
theorem top_ok_y [Inhabited V] (hk : KeyOk P x D) (hinj : Function.Injective P.rank) (hD : D x ≠ []) :
    ∀ (c : Cond V), Cond.tree c = true → Cond.single x c → c.noFlat = true →
    ∀ (π : Path) (y : Bool) (req : ReqFn) (s : St), TopInv P x W D c π y s →
      (∀ o ∈ D x, InvOn P s (InSub π) [(x, o)]) →
      (evalM W D P true c π req [] y s).1 = (D x).flatMap (singleOut W c x y) ∧
      TopInv P x W D c π y (evalM W D P true c π req [] y s).2 ∧
      FrameOn s (evalM W D P true c π req [] y s).2 (InSub π) := by
  intro c
  induction c with
  | cmp op l r =>
    intro _ hs hf π y req s hinv hdd
    obtain ⟨n', he, hts, _⟩ := cmp_top_y P x W D hk hinj op l r (onlyX_of_single_cmp x hs) hf hs y π req s hinv
      (fun o ho => hdd o ho π (inSub_refl π))
    rw [he]
    refine ⟨rfl, ?_, frameOn_setNode _ _ _ _ (inSub_refl π)⟩
    show TSpecY P x D (getNode (setNode s π n') π).cache y _
    rw [getNode_setNode_self]
    exact hts
  | truth inv t | pred inv n args =>
    intro _ hs hf π y req s _ _
    exact ⟨cond_dist W D x _ hf hs y, trivial, frameOn_refl _ _⟩
  | and l r ihl _ =>
    intro hc hs hf π y req s hinv hdd
    have hc := Bool.and_eq_true_iff.1 hc
    have hf := Bool.and_eq_true_iff.1 hf
    obtain ⟨l1, l2, l3⟩ := ihl hc.1 hs.1 hf.1 (0 :: π) y (reqLeftOfAnd r.vars req) s hinv.2.1
      (fun o ho => invOn_sub P (hdd o ho) (fun π' h => inSub_child h))
    obtain ⟨s', e, f2, f3⟩ := topNode P x W D hk π y y l r
      (andStep P true π req y r.vars (fun b s' => evalM W D P true r (1 :: π) (reqRightOfAnd req) b y s'))
      (fun o => if (y && !Hc W l o) = true then [(([(x, o)] : Bnd V), true)] else singleOut W r x y o)
      (fun o ho acc => andStep_y P x W D hk hinj π req y r (onlyX_of_single_tree x r hc.2 hs.2) _ o ho
        (bound_ok_y P x W D hk hinj r hc.2 hs.2 hf.2 (1 :: π) y (reqRightOfAnd req) o ho) acc (!Hc W l o))
      s _ hinv.1 hinv.2.2 hdd _ (topInv_local P x W D l _ _) l2 l3
    rw [flatMap_singleOut_y] at l1
    simp only [evalM, l1, e]
    exact ⟨flatMap_and_y x W D l r y, f2, f3⟩
  | elseIf l r ihl _ =>
    intro hc hs hf π y req s hinv hdd
    have hc := Bool.and_eq_true_iff.1 hc
    have hf := Bool.and_eq_true_iff.1 hf
    obtain ⟨l1, l2, l3⟩ := ihl hc.1 hs.1 hf.1 (0 :: π) true (reqLeftOfOr r.vars req) s hinv.2.1
      (fun o ho => invOn_sub P (hdd o ho) (fun π' h => inSub_child h))
    obtain ⟨s', e, f2, f3⟩ := topNode P x W D hk π y true l r
      (orStep P true π req y r.vars (fun b s' => evalM W D P true r (1 :: π) (reqRightOfOr req) b y s'))
      (fun o => if (!Hc W l o) = true then singleOut W r x y o else [(([(x, o)] : Bnd V), false)])
      (fun o ho acc => orStep_y P x W D hk hinj π req y r (onlyX_of_single_tree x r hc.2 hs.2) _ o ho
        (bound_ok_y P x W D hk hinj r hc.2 hs.2 hf.2 (1 :: π) y (reqRightOfOr req) o ho) acc (!Hc W l o))
      s _ hinv.1 hinv.2.2 hdd _ (topInv_local P x W D l _ _) l2 l3
    -- asked for its false outputs too, the left operand yields an output for every object, and there is one: the
    -- right operand is not evaluated in its place
    have hne : ((D x).flatMap (singleOut W l x true)).isEmpty = false := by
      rw [isEmpty_flatMap_of_nonempty _ _ fun o => by rw [singleOut, closedOut_true]; rfl]
      exact List.isEmpty_eq_false_iff.2 hD
    simp only [evalM, l1, hne, Bool.false_eq_true, if_false]
    rw [flatMap_singleOut_y, e]
    exact ⟨flatMap_or_y x W D l r y, f2, f3⟩
  | sub sel c ih =>
    -- a sub-query in condition position: its condition over the domain, then its selected expressions (all bound)
    intro hc hs hf π y req s hinv hdd
    have hf := Bool.and_eq_true_iff.1 hf
    obtain ⟨c1, c2, c3⟩ := ih hc hs.1 hf.1 (0 :: π) y (fun wt => req wt ++ sel.flatMap Term.binds) s hinv
      (fun o ho => invOn_sub P (hdd o ho) (fun π' h => inSub_child h))
    refine ⟨?_, c2, frameOn_sub c3 (fun π' h => inSub_child h)⟩
    simp only [evalM, c1]
    rw [List.flatMap_assoc]
    exact flatMap_congr_mem fun o _ => singleOut_sub x W D sel c hf.2 hs.2 y o

/-- **Result caching is transparent for single-variable queries.**  For ANY condition of one variable -
    conjunctions, disjunctions and sub-queries in condition position over comparisons, truth tests and
    predicates (negations pushed to the leaves, as `not_` builds them), flatten-free, every leaf mentioning the
    variable (`Cond.single`) -, over a non-empty domain of distinct objects (`KeyOk`; distinct ranks, `hinj`): one
    evaluation of `an(entity/set_of(sel, c))` by the stateful machine with the result cache ENABLED, from any state whose
    caches meet their specification and whose duplicate tracking sets are clean (the fresh state; the state
    any number of earlier evaluations left behind), yields exactly the rows of the L1 evaluation, in order -
    and leaves such a state. -/
theorem rowsM_on_any_tree [Inhabited V] (hk : KeyOk P x D) (hinj : Function.Injective P.rank) (hD : D x ≠ [])
    (q : Query V) (c : Cond V) (hq : q.cond = some c) (hc : Cond.tree c = true) (hs : Cond.single x c)
    (hf : c.noFlat = true) (st : St) (hst : TopInv P x W D c [] false st) (hclean : DedupClean st) :
    (rowsM W D P true q st).1 = rows W D q ∧ TopInv P x W D c [] false (rowsM W D P true q st).2 ∧
      DedupClean (rowsM W D P true q st).2 := by
  obtain ⟨h1, h2, _⟩ := top_ok_y P x W D hk hinj hD c hc hs hf [] false (fun _ => q.sel.flatMap Term.binds) st hst
    (fun o _ => invOn_of_clean P hclean _ _)
  refine ⟨rowsM_of_outs W D P true q c hq st (h1.trans (cond_dist W D x c hf hs false).symm), ?_⟩
  simp only [rowsM, hq]
  exact ⟨(topInv_local P x W D c _ _).reset h2, dedupClean_reset _⟩

theorem rowsM_on_any_tree_iter [Inhabited V] (hk : KeyOk P x D) (hinj : Function.Injective P.rank) (hD : D x ≠ [])
    (q : Query V) (c : Cond V) (hq : q.cond = some c) (hc : Cond.tree c = true) (hs : Cond.single x c)
    (hf : c.noFlat = true) :
    ∀ (n : Nat) (st : St), TopInv P x W D c [] false st → DedupClean st →
      (rowsM W D P true q (afterEvalsOn P W D q n st)).1 = rows W D q :=
  fun n st hst hcl => rowsM_iter P W D q (fun s => TopInv P x W D c [] false s ∧ DedupClean s)
    (fun s hs' => rowsM_on_any_tree P x W D hk hinj hD q c hq hc hs hf s hs'.1 hs'.2) n st ⟨hst, hcl⟩

end Eql.Machine
