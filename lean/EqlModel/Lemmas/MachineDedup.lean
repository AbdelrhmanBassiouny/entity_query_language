/-
  L2: duplicate tracking never drops an output when every stored constraint comes from an output that CLASHES with
  what is evaluated next: a stored constraint that disagrees with a binding on a bound variable does not cover that
  binding's key, whatever the required variables are (`covers_false`), so `_is_duplicate_output_` answers "new" and
  records the key (`isDup_fresh`).
-/
import EqlModel.Machine
import EqlModel.Lemmas.Clash

namespace Eql.Machine
open Eql
variable {V : Type}
variable (P : Params V)

/-- The stored constraint `c` disagrees with the binding `β` on a variable `β` binds. -/
def ClashC (c : Cache.Asg Nat) (β : Bnd V) : Prop :=
  ∃ v a x, β.lookup v = some a ∧ (P.rank v, x) ∈ c ∧ x ≠ P.toKey a

theorem clashC_mono {c : Cache.Asg Nat} {β β' : Bnd V} (h : ClashC P c β) (hs : Sub β β') : ClashC P c β' := by
  obtain ⟨v, a, x, h1, h2, h3⟩ := h
  exact ⟨v, a, x, hs v a h1, h2, h3⟩

theorem toAsg_get (hinj : Function.Injective P.rank) (vars : List VarId) (β : Bnd V) (v : VarId) :
    Cache.Asg.get (toAsg P vars β) (P.rank v) = if v ∈ vars then (β.lookup v).map P.toKey else none := by
  rw [Cache.Asg.get, toAsg, lookup_filterMap_inj hinj]
  simp only [List.mem_eraseDups]

theorem covers_false (hinj : Function.Injective P.rank) (c : Cache.Asg Nat) (vars : List VarId) (β : Bnd V)
    (h : ClashC P c β) : Cache.SeenSet.covers c (toAsg P vars β) = false := by
  obtain ⟨v, a, x, h1, h2, h3⟩ := h
  refine List.all_eq_false.2 ⟨(P.rank v, x), h2, ?_⟩
  rw [toAsg_get P hinj, h1]
  split
  · exact fun e => h3 (Option.some.inj (eq_of_beq e)).symm
  · exact fun e => nomatch eq_of_beq e

theorem clashC_of_clash (required : List VarId) (out β₂ : Bnd V)
    (hreq : ∀ v a, out.lookup v = some a → v ∈ required) (h : Clash P.toKey out β₂) :
    ClashC P (toAsg P required out) β₂ := by
  obtain ⟨v, a, b, h1, h2, h3⟩ := h
  exact ⟨v, b, P.toKey a, h2, List.mem_filterMap.2 ⟨v, List.mem_eraseDups.2 (hreq v a h1), by rw [h1]; rfl⟩, h3⟩

/-- A duplicate-tracking set is unpoisoned (`allSeen` not set) and each of its constraints clashes with `β`. -/
def SeenOk (s : Cache.SeenSet Nat) (β : Bnd V) : Prop := s.allSeen = false ∧ ∀ c ∈ s.seen, ClashC P c β

/-- `SeenOk` of both seen sets of a node: the node is "fine for `β`", `_is_duplicate_output_` answers "new" on `β`. -/
def NodeOk (n : NodeSt) (β : Bnd V) : Prop :=
  n.seenT.allSeen = false ∧ n.seenF.allSeen = false ∧
  (∀ c ∈ n.seenT.seen, ClashC P c β) ∧ (∀ c ∈ n.seenF.seen, ClashC P c β)

theorem nodeOk_default (β : Bnd V) : NodeOk P ({} : NodeSt) β :=
  ⟨rfl, rfl, fun _ h => (List.not_mem_nil h).elim, fun _ h => (List.not_mem_nil h).elim⟩

theorem nodeOk_mono {n : NodeSt} {β β' : Bnd V} (h : NodeOk P n β) (hs : Sub β β') : NodeOk P n β' :=
  ⟨h.1, h.2.1, fun c hc => clashC_mono P (h.2.2.1 c hc) hs, fun c hc => clashC_mono P (h.2.2.2 c hc) hs⟩

theorem nodeOk_seen {n : NodeSt} {β : Bnd V} (h : NodeOk P n β) (isFalse : Bool) :
    SeenOk P (if isFalse then n.seenF else n.seenT) β := by
  cases isFalse
  · exact ⟨h.1, h.2.2.1⟩
  · exact ⟨h.2.1, h.2.2.2⟩

theorem nodeOk_setSeen {n : NodeSt} {β : Bnd V} (h : NodeOk P n β) (isFalse : Bool) {s : Cache.SeenSet Nat}
    (hs : SeenOk P s β) : NodeOk P (if isFalse then { n with seenF := s } else { n with seenT := s }) β := by
  cases isFalse
  · exact ⟨hs.1, h.2.1, hs.2, h.2.2.2⟩
  · exact ⟨h.1, hs.1, h.2.2.1, hs.2⟩

theorem seen_check_fresh (hinj : Function.Injective P.rank) (s : Cache.SeenSet Nat) (vars : List VarId) (out : Bnd V)
    (hs : SeenOk P s out) (hne : (toAsg P vars out).isEmpty = false) :
    s.check (toAsg P vars out) = (false, s) := by
  simp only [Cache.SeenSet.check, hs.1, Bool.false_eq_true, if_false, hne]
  congr 1
  exact List.any_eq_false.2 fun c hc => Bool.eq_false_iff.1 (covers_false P hinj c vars out (hs.2 c hc))

theorem seenOk_add {s : Cache.SeenSet Nat} {a : Cache.Asg Nat} {β : Bnd V} (hs : SeenOk P s β)
    (hne : a.isEmpty = false) (ha : ClashC P a β) : SeenOk P (s.add a) β := by
  simp only [SeenOk, Cache.SeenSet.add, hs.1, Bool.false_eq_true, if_false, hne, List.mem_append, List.mem_singleton]
  exact ⟨trivial, fun c hc => hc.elim (hs.2 c) fun e => e ▸ ha⟩

theorem isDup_fresh (hinj : Function.Injective P.rank) (req : ReqFn) (isFalse : Bool) (out : Bnd V) (n : NodeSt)
    (h : NodeOk P n out) :
    (isDup P req isFalse out n).1 = false ∧
    (isDup P req isFalse out n).2.cache = n.cache ∧ (isDup P req isFalse out n).2.rcache = n.rcache ∧
    ∀ β₂ : Bnd V, NodeOk P n β₂ →
      ((toAsg P (req (some (!isFalse))) out).isEmpty = false → ClashC P (toAsg P (req (some (!isFalse))) out) β₂) →
      NodeOk P (isDup P req isFalse out n).2 β₂ := by
  -- `isDup` is unfolded once, in an equation, and not in each of its six occurrences in the goal
  generalize hd : isDup P req isFalse out n = d
  simp only [isDup] at hd
  by_cases hr : (req (some (!isFalse))).isEmpty = true
  · rw [if_pos hr] at hd
    subst hd
    exact ⟨rfl, rfl, rfl, fun _ h2 _ => h2⟩
  by_cases he : (toAsg P (req (some (!isFalse))) out).isEmpty = true
  · rw [if_neg hr, if_pos he] at hd
    subst hd
    exact ⟨rfl, rfl, rfl, fun _ h2 _ => h2⟩
  have he' := Bool.eq_false_iff.2 he
  rw [if_neg hr, if_neg he, seen_check_fresh P hinj _ _ out (nodeOk_seen P h isFalse) he',
    if_neg Bool.false_ne_true] at hd
  subst hd
  refine ⟨rfl, ?_, ?_, fun β₂ h2 hc2 =>
    nodeOk_setSeen P h2 isFalse (seenOk_add P (nodeOk_seen P h2 isFalse) he' (hc2 he'))⟩
  · cases isFalse <;> rfl
  · cases isFalse <;> rfl

end Eql.Machine
