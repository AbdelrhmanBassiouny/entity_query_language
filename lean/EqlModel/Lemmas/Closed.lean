/-
  Exact outputs (as lists) of flatten-free expressions, for the list-level property theorems and the
  single-variable fragment of the L2 machine: an expression all of whose variables are bound yields exactly
  one output (a condition: or none), and an expression over one unbound variable is evaluated once per object
  of the domain, in domain order, whatever else is bound.
  `*_closed_on`: every variable bound, to the values of `α`; `*_closed`: the same under `Ext β α`.  `*_dist_frame`: one
  unbound variable `x`, the outputs distribute over `D x`, under any `β` that leaves `x` unbound; `*_dist`: `β = []`.
  `cond_at_frame` / `cond_at`: `x ↦ o` bound on top of `β` / alone.
-/
import EqlModel.Lemmas.Cond

namespace Eql
variable {V : Type}

theorem closedOut_true (β : Bnd V) (d : Bool) : closedOut β d true = [(β, !d)] := by
  simp only [closedOut, Bool.or_true, if_true]

theorem closedOut_flatMap {γ : Type} (β : Bnd V) (d ywf : Bool) (k : Bnd V × Bool → List γ) :
    (closedOut β d ywf).flatMap k = if d || ywf then k (β, !d) else [] := by
  unfold closedOut; split <;> simp

theorem closedOut_foldl {σ : Type} (β : Bnd V) (d y : Bool) (step : σ → Bnd V × Bool → σ) (a : σ) :
    (closedOut β d y).foldl step a = if (d || y) = true then step a (β, !d) else a := by
  unfold closedOut
  split <;> rfl

/-- `AND._evaluate__` over the one output of a closed left operand. -/
theorem closedOut_and (β : Bnd V) (d1 d2 ywf : Bool) :
    (if d1 || ywf then (if ywf && !d1 then [(β, true)] else closedOut β d2 ywf) else []) =
      closedOut β (d1 && d2) ywf := by
  cases d1 <;> cases d2 <;> cases ywf <;> rfl

/-- `ElseIf._evaluate__` over the one output of a closed left operand. -/
theorem closedOut_or (β : Bnd V) (d1 d2 ywf : Bool) :
    (if !d1 then closedOut β d2 ywf else [(β, false)]) = closedOut β (d1 || d2) ywf := by
  cases d1 <;> cases d2 <;> cases ywf <;> rfl

variable (W : World V) (D : VarId → List V)

theorem term_closed_on : ∀ (t : Term V), t.noFlat = true → ∀ (β : Bnd V) (α : Asg V),
    (∀ v ∈ t.vars, β.lookup v = some (α v)) → evalTerm W D t β = [(β, termVal W α t)] := by
  intro t
  induction t with
  | var v => intro _ β α hb; simp only [evalTerm, hb v List.mem_cons_self, termVal]
  | lit c => intro _ β α _; rfl
  | attr _ t ih | index _ t ih | call _ _ t ih =>
    intro hf β α hb; simp only [evalTerm, termVal, ih hf β α hb, List.map_cons, List.map_nil]
  | flatten _ _ _ | concat _ _ _ => intro hf; cases hf

theorem args_closed_on : ∀ (ts : List (Term V)), Terms.noFlat ts = true → ∀ (β : Bnd V) (α : Asg V),
    (∀ v ∈ Terms.vars ts, β.lookup v = some (α v)) → evalArgs W D ts β = [(β, termsVal W α ts)] := by
  intro ts
  induction ts with
  | nil => intro _ β α _; rfl
  | cons t ts ih =>
    intro hf β α hb
    simp only [Terms.noFlat, Bool.and_eq_true] at hf
    simp only [evalArgs, termsVal, List.flatMap_cons, List.flatMap_nil, List.append_nil, List.map_cons,
      List.map_nil, term_closed_on W D t hf.1 β α fun v hv => hb v (List.mem_append_left _ hv),
      ih hf.2 β α fun v hv => hb v (List.mem_append_right _ hv)]

theorem cond_closed_on : ∀ (c : Cond V), c.noFlat = true → ∀ (β : Bnd V) (α : Asg V) (ywf : Bool),
    (∀ v ∈ c.vars, β.lookup v = some (α v)) → evalCond W D c β ywf = closedOut β (denote W α c) ywf := by
  intro c
  induction c using Cond.leafInduction with
  | leaf c hl =>
    intro hf β α ywf hb
    obtain ⟨ts, g, L⟩ := hl W D β
    rw [L.eval, L.denote, args_closed_on W D ts (L.noFlat ▸ hf) β α fun v hv => hb v ((L.vars v).2 hv),
      List.flatMap_singleton]
  | and l r ihl ihr =>
    intro hf β α ywf hb
    simp only [Cond.noFlat, Bool.and_eq_true] at hf
    simp only [evalCond, denote, ihl hf.1 β α ywf fun v hv => hb v (List.mem_append_left _ hv),
      closedOut_flatMap, ihr hf.2 β α ywf fun v hv => hb v (List.mem_append_right _ hv), closedOut_and]
  | elseIf l r ihl ihr =>
    intro hf β α ywf hb
    simp only [Cond.noFlat, Bool.and_eq_true] at hf
    simp only [evalCond, denote, ihl hf.1 β α true fun v hv => hb v (List.mem_append_left _ hv),
      closedOut_true, List.isEmpty_cons, Bool.false_eq_true, if_false, List.flatMap_cons, List.flatMap_nil,
      List.append_nil, ihr hf.2 β α ywf fun v hv => hb v (List.mem_append_right _ hv), closedOut_or]
  | sub sel c ih =>
    intro hf β α ywf hb
    simp only [Cond.noFlat, Bool.and_eq_true] at hf
    simp only [evalCond, denote, ih hf.1 β α ywf fun v hv => hb v (List.mem_append_left _ hv),
      closedOut_flatMap, args_closed_on W D sel hf.2 β α fun v hv => hb v (List.mem_append_right _ hv),
      List.map_cons, List.map_nil]
    rfl

theorem args_closed (ts : List (Term V)) (hf : Terms.noFlat ts = true) (β : Bnd V) (α : Asg V) (hα : Ext β α)
    (hb : ∀ v ∈ Terms.vars ts, bound β v = true) : evalArgs W D ts β = [(β, termsVal W α ts)] :=
  args_closed_on W D ts hf β α fun v hv => lookup_of_ext hα (hb v hv)

theorem cond_closed : ∀ (c : Cond V), c.noFlat = true → ∀ (β : Bnd V) (α : Asg V) (ywf : Bool),
    Ext β α → (∀ v ∈ c.vars, bound β v = true) →
    evalCond W D c β ywf = closedOut β (denote W α c) ywf :=
  fun c hf β α ywf hα hb => cond_closed_on W D c hf β α ywf fun v hv => lookup_of_ext hα (hb v hv)

/-- What a single-variable condition yields for the object `o`. -/
def singleOut (c : Cond V) (x : VarId) (ywf : Bool) (o : V) : List (Bnd V × Bool) :=
  closedOut [(x, o)] (denote W (constAsg o) c) ywf

theorem cond_at_frame (x : VarId) (c : Cond V) (hf : c.noFlat = true) (hs : Cond.single x c) (β : Bnd V)
    (ywf : Bool) (o : V) :
    evalCond W D c ((x, o) :: β) ywf = closedOut ((x, o) :: β) (denote W (constAsg o) c) ywf :=
  cond_closed_on W D c hf _ (constAsg o) ywf fun v hv => by
    rw [single_vars x c hs v hv]; exact lookup_self

theorem cond_at (x : VarId) (c : Cond V) (hf : c.noFlat = true) (hs : Cond.single x c)
    (ywf : Bool) (o : V) : evalCond W D c [(x, o)] ywf = singleOut W c x ywf o :=
  cond_at_frame W D x c hf hs [] ywf o

theorem term_dist_frame (x : VarId) (β : Bnd V) (hβ : β.lookup x = none) :
    ∀ (t : Term V), t.noFlat = true → (∀ v ∈ t.vars, v = x) → t.vars ≠ [] →
    evalTerm W D t β = (D x).map fun o => ((x, o) :: β, termVal W (constAsg o) t) := by
  intro t
  induction t with
  | var v =>
    intro _ hv _
    cases hv v List.mem_cons_self
    simp only [evalTerm, hβ, termVal, constAsg]
  | lit c => intro _ _ hne; exact absurd rfl hne
  | attr _ t ih | index _ t ih | call _ _ t ih =>
    intro hf hv hne
    simp only [evalTerm, ih hf hv hne, List.map_map, termVal]
    rfl
  | flatten _ _ _ | concat _ _ _ => intro hf; cases hf

theorem args_dist [Inhabited V] (x : VarId) (β : Bnd V) (hβ : β.lookup x = none) :
    ∀ (ts : List (Term V)), Terms.noFlat ts = true → (∀ v ∈ Terms.vars ts, v = x) → Terms.vars ts ≠ [] →
    evalArgs W D ts β = (D x).map fun o => ((x, o) :: β, termsVal W (constAsg o) ts) := by
  intro ts
  induction ts with
  | nil => intro _ _ hne; exact absurd rfl hne
  | cons t ts ih =>
    intro hf hv hne
    simp only [Terms.noFlat, Bool.and_eq_true] at hf
    have hvt : ∀ v ∈ t.vars, v = x := fun v h => hv v (List.mem_append_left _ h)
    have hvs : ∀ v ∈ Terms.vars ts, v = x := fun v h => hv v (List.mem_append_right _ h)
    by_cases ht : t.vars = []
    · -- a plain value: the remaining arguments enumerate the domain
      have hts : Terms.vars ts ≠ [] := by simpa [Terms.vars, ht] using hne
      have hval : ∀ o, termVal W (constAsg default) t = termVal W (constAsg o) t := fun o =>
        termVal_congr W t hf.1 _ _ (by simp [ht])
      simp only [evalArgs, term_closed_on W D t hf.1 β (constAsg default) (by simp [ht]),
        List.flatMap_cons, List.flatMap_nil, List.append_nil, ih hf.2 hvs hts, List.map_map]
      exact List.map_congr_left fun o _ => by simp only [Function.comp, termsVal, hval o]
    · have hcl : ∀ o, evalArgs W D ts ((x, o) :: β) = [((x, o) :: β, termsVal W (constAsg o) ts)] := fun o =>
        args_closed_on W D ts hf.2 _ _ fun v hv => by rw [hvs v hv]; exact lookup_self
      simp only [evalArgs, term_dist_frame W D x β hβ t hf.1 hvt ht, List.flatMap_map, hcl, List.map_cons,
        List.map_nil, termsVal, ← List.map_eq_flatMap]

theorem cond_dist_frame [Inhabited V] (x : VarId) : ∀ (c : Cond V), c.noFlat = true → Cond.single x c →
    ∀ (β : Bnd V) (ywf : Bool), β.lookup x = none →
    evalCond W D c β ywf = (D x).flatMap fun o => closedOut ((x, o) :: β) (denote W (constAsg o) c) ywf := by
  intro c
  induction c using Cond.leafInduction with
  | leaf c hl =>
    intro hf hs β ywf hβ
    obtain ⟨ts, g, L⟩ := hl W D β
    obtain ⟨hv, hne⟩ := (L.single x).1 hs
    simp only [L.eval, L.denote, args_dist W D x β hβ ts (L.noFlat ▸ hf) hv hne, List.flatMap_map]
  | and l r ihl ihr =>
    intro hf hs β ywf hβ
    simp only [Cond.noFlat, Bool.and_eq_true] at hf
    have hr := cond_at_frame W D x r hf.2 hs.2 β ywf
    simp only [evalCond, denote, ihl hf.1 hs.1 β ywf hβ, List.flatMap_assoc, closedOut_flatMap, hr, closedOut_and]
  | elseIf l r ihl ihr =>
    intro hf hs β ywf hβ
    simp only [Cond.noFlat, Bool.and_eq_true] at hf
    have hr := cond_at_frame W D x r hf.2 hs.2 β ywf
    simp only [evalCond, denote, ihl hf.1 hs.1 β true hβ, closedOut_true, ← List.map_eq_flatMap,
      List.isEmpty_map, List.flatMap_map, hr, closedOut_or]
    -- without objects the left operand yields nothing and the right one is evaluated instead: nothing either
    cases hD : D x with
    | nil => simp only [List.isEmpty_nil, if_true, ihr hf.2 hs.2 β ywf hβ, hD, List.flatMap_nil]
    | cons o0 os => rfl
  | sub sel c ih =>
    intro hf hs β ywf hβ
    simp only [Cond.noFlat, Bool.and_eq_true] at hf
    have ha : ∀ o, evalArgs W D sel ((x, o) :: β) = [((x, o) :: β, termsVal W (constAsg o) sel)] := fun o =>
      args_closed_on W D sel hf.2 _ _ fun v hv => by rw [hs.2 v hv]; exact lookup_self
    simp only [evalCond, denote, ih hf.1 hs.1 β ywf hβ, List.flatMap_assoc, closedOut_flatMap, ha,
      List.map_cons, List.map_nil]
    rfl

theorem cond_dist [Inhabited V] (x : VarId) : ∀ (c : Cond V), c.noFlat = true → Cond.single x c →
    ∀ (ywf : Bool), evalCond W D c [] ywf = (D x).flatMap (singleOut W c x ywf) :=
  fun c hf hs ywf => cond_dist_frame W D x c hf hs [] ywf rfl

end Eql
