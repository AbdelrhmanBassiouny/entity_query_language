/-
  EqlModel.RulesExt — rule trees whose branches introduce further variables.

  In `with refinement(body.ref == container, ...): Add(views, Wardrobe(handle, body, container))` the
  refinement's conditions join a variable the base rule does not mention, and its conclusion is made
  of more variables than the base conclusion (the library's own Drawer / Wardrobe / Door example).
    ruleRowsA      `ruleRows` with one list of argument expressions PER conclusion (tag)
    fireExtKids / fireExtRule / specRuleRowsExt
                   the ripple-down reading over PARTIAL bindings: a block fires under a binding of
                   the variables bound so far once for every extension by its own new variables that
                   satisfies its conditions; it is replaced by the first of its refinements that
                   fires under that extension; when no extension satisfies it, its alternatives are
                   tried under the ORIGINAL binding.
    fireExtKids_closed / fireExtRule_closed
                   when every condition of the program only mentions variables that are already bound
                   (the programs the C12 theorems are about) this is exactly `fireKids` / `fireRule`.
  Executable reference for the correspondence check (the de-duplication of conclusions across outputs,
  `ConclusionSelector.update_conclusion`, is not part of the L1 evaluator `evalR`).
-/
import EqlModel.Rules
import EqlModel.SpecExec
import EqlModel.Syntax
import EqlModel.Lemmas.RuleBuild

namespace Eql
variable {V : Type}

def ruleRowsA (W : World V) (D : VarId → List V) (t : RTree V) (argsOf : Nat → List (Term V)) :
    List (Nat × List V) :=
  (evalR W D t [] false).flatMap fun p =>
    match p.2.2 with
    | some tag => if p.2.1 then [] else (evalArgs W D (argsOf tag) p.1).map fun q => (tag, q.2)
    | none => []

theorem ruleRowsA_const (W : World V) (D : VarId → List V) (t : RTree V) (args : List (Term V)) :
    ruleRowsA W D t (fun _ => args) = ruleRows W D t args := rfl

variable [Inhabited V]

/-- The extensions of `β` by the variables of `c` it leaves unbound that satisfy `c`. -/
def extsSat (W : World V) (D : VarId → List V) (c : Cond V) (β : Bnd V) : List (Bnd V) :=
  let free := c.vars.eraseDups.filter fun v => !bound β v
  ((allBnds D free).map (· ++ β)).filter fun β' => denote W (asgOf β') c

def fireExtKids (W : World V) (D : VarId → List V) (m : Kind) : SRule V → Bnd V → List (Nat × Bnd V)
  | .nil, _ => []
  | .cons kind c tag inner rest, β =>
      let here : List (Nat × Bnd V) :=
        if kind = m then
          let exts := extsSat W D c β
          if exts.isEmpty then fireExtKids W D .alt inner β
          else exts.flatMap fun β' =>
            let r := fireExtKids W D .ref inner β'
            if r.isEmpty then [(tag, β')] else r
        else []
      if here.isEmpty then fireExtKids W D m rest β else here

def fireExtRule (W : World V) (D : VarId → List V) (c0 : Cond V) (tag0 : Nat) (kids : SRule V) (β : Bnd V) :
    List (Nat × Bnd V) :=
  if denote W (asgOf β) c0 then
    (let r := fireExtKids W D .ref kids β; if r.isEmpty then [(tag0, β)] else r)
  else fireExtKids W D .alt kids β

/-- Reference rows: per total binding of the base variables, the conclusions selected and the values
    of their argument expressions. -/
def specRuleRowsExt (W : World V) (D : VarId → List V) (baseVars : List VarId) (c0 : Cond V) (tag0 : Nat)
    (kids : SRule V) (argsOf : Nat → List (Term V)) : List (Nat × List V) :=
  (allBnds D baseVars).flatMap fun β =>
    (fireExtRule W D c0 tag0 kids β).map fun p => (p.1, termsVal W (asgOf p.2) (argsOf p.1))

/-- Every condition of the program mentions bound variables only. -/
def SRule.closedUnder (β : Bnd V) : SRule V → Prop
  | .nil => True
  | .cons _ c _ inner rest => (∀ v ∈ c.vars, bound β v = true) ∧ inner.closedUnder β ∧ rest.closedUnder β

theorem extsSat_closed (W : World V) (D : VarId → List V) (c : Cond V) (β : Bnd V)
    (h : ∀ v ∈ c.vars, bound β v = true) :
    extsSat W D c β = if denote W (asgOf β) c then [β] else [] := by
  have hfree : (c.vars.eraseDups.filter fun v => !bound β v) = [] := by
    apply List.filter_eq_nil_iff.2
    intro v hv
    simp [h v (List.mem_eraseDups.1 hv)]
  simp only [extsSat, hfree, allBnds, List.map_cons, List.map_nil, List.nil_append, List.filter_cons,
    List.filter_nil]

theorem fireExtRule_of_kids (W : World V) (D : VarId → List V) (c0 : Cond V) (tag0 : Nat) (kids : SRule V)
    (β : Bnd V) (h : ∀ m, fireExtKids W D m kids β = (fireKids W (asgOf β) m kids).toList.map fun t => (t, β)) :
    fireExtRule W D c0 tag0 kids β = (fireRule W (asgOf β) c0 tag0 kids).toList.map fun t => (t, β) := by
  simp only [fireExtRule, fireRule, h]
  cases denote W (asgOf β) c0
  · rfl
  · cases fireKids W (asgOf β) .ref kids <;> rfl

theorem fireExtKids_cons_closed (W : World V) (D : VarId → List V) (m kind : Kind) (c : Cond V) (tag : Nat)
    (inner rest : SRule V) (β : Bnd V) (hc : ∀ v ∈ c.vars, bound β v = true) :
    fireExtKids W D m (.cons kind c tag inner rest) β =
      (let here := if kind = m then fireExtRule W D c tag inner β else []
       if here.isEmpty then fireExtKids W D m rest β else here) := by
  simp only [fireExtKids, extsSat_closed W D c β hc, fireExtRule]
  cases denote W (asgOf β) c
  · rfl
  · simp only [if_true, List.isEmpty_cons, Bool.false_eq_true, if_false, List.flatMap_cons, List.flatMap_nil,
      List.append_nil]

theorem fireExtKids_closed (W : World V) (D : VarId → List V) : ∀ (kids : SRule V) (m : Kind) (β : Bnd V),
    kids.closedUnder β →
    fireExtKids W D m kids β = (fireKids W (asgOf β) m kids).toList.map fun t => (t, β) := by
  intro kids
  induction kids with
  | nil => intro m β _; rfl
  | cons kind c tag inner rest ihi ihr =>
    intro m β ⟨hc, hi, hr⟩
    rw [fireExtKids_cons_closed W D m kind c tag inner rest β hc,
      fireExtRule_of_kids W D c tag inner β (fun m => ihi m β hi), ihr m β hr, fireKids_cons,
      fireRule_eq_fireNode]
    by_cases hk : kind = m
    · simp only [hk, if_true]
      cases fireNode W (asgOf β) c tag inner <;> rfl
    · simp only [hk, if_false]; rfl

theorem fireExtRule_closed (W : World V) (D : VarId → List V) (c0 : Cond V) (tag0 : Nat) (kids : SRule V)
    (β : Bnd V) (h : kids.closedUnder β) :
    fireExtRule W D c0 tag0 kids β = (fireRule W (asgOf β) c0 tag0 kids).toList.map fun t => (t, β) :=
  fireExtRule_of_kids W D c0 tag0 kids β fun m => fireExtKids_closed W D kids m β h

end Eql
